-- Root of the library: every model, lemma and property module.
import BtcHd.Bch.Cross
import BtcHd.Bch.Distance
import BtcHd.Generated.Base58
import BtcHd.Generated.Bech32
import BtcHd.Generated.Code
import BtcHd.Generated.CodeObj
import BtcHd.Generated.CodeObj2
import BtcHd.Generated.CodeObj3
import BtcHd.Generated.CodeObj4
import BtcHd.Generated.CodeObj5
import BtcHd.Generated.CodeObj6
import BtcHd.Generated.Misc
import BtcHd.Generated.Ripemd
import BtcHd.Generated.Versions
import BtcHd.Generated.Wordlist
import BtcHd.Lemmas.Base58
import BtcHd.Lemmas.Basics
import BtcHd.Lemmas.Bch
import BtcHd.Lemmas.BchDefs
import BtcHd.Lemmas.BchDist
import BtcHd.Lemmas.BeFixed
import BtcHd.Lemmas.Bech32
import BtcHd.Lemmas.Bech32Subst
import BtcHd.Lemmas.Bip32
import BtcHd.Lemmas.Bip39
import BtcHd.Lemmas.Bip39Text
import BtcHd.Lemmas.Bip39Words
import BtcHd.Lemmas.Bip85
import BtcHd.Lemmas.Cli
import BtcHd.Lemmas.CliToy
import BtcHd.Lemmas.Convertbits
import BtcHd.Lemmas.CurveLaws
import BtcHd.Lemmas.Digits
import BtcHd.Lemmas.Extra
import BtcHd.Lemmas.GF2
import BtcHd.Lemmas.GF2Packed
import BtcHd.Lemmas.History
import BtcHd.Lemmas.Json
import BtcHd.Lemmas.JsonText
import BtcHd.Lemmas.Paranoia
import BtcHd.Lemmas.Path
import BtcHd.Lemmas.Polymod
import BtcHd.Lemmas.RealSecp
import BtcHd.Lemmas.Ripemd
import BtcHd.Lemmas.Script
import BtcHd.Lemmas.Secp.Bridge
import BtcHd.Lemmas.Secp.Carrier
import BtcHd.Lemmas.Secp.Encoding
import BtcHd.Lemmas.Secp.Field
import BtcHd.Lemmas.Secp.Group
import BtcHd.Lemmas.Secp.Loops
import BtcHd.Lemmas.Secp.Pratt
import BtcHd.Lemmas.Secp.Primes
import BtcHd.Lemmas.Seed
import BtcHd.Lemmas.ShaLen
import BtcHd.Lemmas.Tags
import BtcHd.Lemmas.ToyBip85
import BtcHd.Lemmas.ToyCurve
import BtcHd.Lemmas.ToyGroup
import BtcHd.Lemmas.ToyHistory
import BtcHd.Lemmas.ToyNodes
import BtcHd.Lemmas.ToyWallet
import BtcHd.Lemmas.TrBase58
import BtcHd.Lemmas.TrBech32
import BtcHd.Lemmas.Translated
import BtcHd.Lemmas.Wallet
import BtcHd.Lemmas.WatchOnly
import BtcHd.Lemmas.XKey
import BtcHd.Model.Base58
import BtcHd.Model.Basic
import BtcHd.Model.Bech32
import BtcHd.Model.Bip32
import BtcHd.Model.Bip39
import BtcHd.Model.Bip85
import BtcHd.Model.Cli
import BtcHd.Model.Curve
import BtcHd.Model.Extra
import BtcHd.Model.History
import BtcHd.Model.JsonText
import BtcHd.Model.Keys
import BtcHd.Model.Path
import BtcHd.Model.PyBuiltins
import BtcHd.Model.Ripemd
import BtcHd.Model.Script
import BtcHd.Model.Text
import BtcHd.Model.Varint
import BtcHd.Model.Wallet
import BtcHd.Official.Wordlist
import BtcHd.Prims.Bundle
import BtcHd.Prims.Secp256k1
import BtcHd.Prims.Sha
import BtcHd.Props.C01
import BtcHd.Props.C02
import BtcHd.Props.C03
import BtcHd.Props.C04
import BtcHd.Props.C05
import BtcHd.Props.C06
import BtcHd.Props.C06Json
import BtcHd.Props.C07
import BtcHd.Props.C08
import BtcHd.Props.C09
import BtcHd.Props.C10
import BtcHd.Props.C11
import BtcHd.Props.C11b
import BtcHd.Props.C11c
import BtcHd.Props.C12
import BtcHd.Props.C13
import BtcHd.Props.C14
import BtcHd.Props.C15
import BtcHd.Props.C16
import BtcHd.Props.C17
import BtcHd.Props.C18
import BtcHd.Props.C19
import BtcHd.Props.C20
import BtcHd.Props.Extra
import BtcHd.Props.RealCurve
import BtcHd.Props.RealInst.Common
import BtcHd.Props.RealInst.C03
import BtcHd.Props.RealInst.C05
import BtcHd.Props.RealInst.C07
import BtcHd.Props.RealInst.C09
import BtcHd.Props.RealInst.C14
import BtcHd.Props.TrAddr
import BtcHd.Props.TrBase58
import BtcHd.Props.TrBech32
import BtcHd.Props.TrBip32
import BtcHd.Props.TrBip39
import BtcHd.Props.TrCli
import BtcHd.Props.TrPaper
import BtcHd.Props.TrPath
import BtcHd.Props.TrVarint
import BtcHd.Props.TrVersion
import BtcHd.Props.TrText
import BtcHd.Props.TrRipemd
import BtcHd.Props.TrWallet
