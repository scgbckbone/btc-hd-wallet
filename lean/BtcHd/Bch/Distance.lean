/-
The kernel evaluates `check` (`Lemmas/BchDefs.lean`) on `1` and the vectors `T^t 1`, `1 ≤ t ≤ 70`:
the finite part of "no error pattern of weight ≤ 4 has syndrome 0"; read by `Bch.synR_ne_zero`
(`Lemmas/BchDist.lean`), which `C11.bch_distance` cites.
-/
import BtcHd.Lemmas.BchDefs

namespace BtcHd.Bch

/-- `1` at position 0 and `T^t 1` at any three further positions `t ≤ 70` are independent over
GF(32) (one kernel evaluation over all 54,740 triples) -/
theorem distance_check : check 1 (table 70 (T 1)) = true := by decide +kernel

end BtcHd.Bch
