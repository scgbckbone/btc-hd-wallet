/-
The kernel evaluates `check` (`Lemmas/BchDefs.lean`) on `D = 1 ^^^ bech32mConst` and the vectors
`T^t 1`, `0 ≤ t ≤ 70`: the finite part of "no error pattern of weight ≤ 3 turns the Bech32
constant into the Bech32m one"; read by `Bch.synR_ne_D` (`Lemmas/BchDist.lean`), which
`C11.bch_cross` cites.
-/
import BtcHd.Lemmas.BchDefs

namespace BtcHd.Bch

/-- `D` and `T^t 1` at any three positions `t ≤ 70` are independent over GF(32) (one kernel
evaluation over all 57,155 triples) -/
theorem cross_check : check D (table 71 1) = true := by decide +kernel

end BtcHd.Bch
