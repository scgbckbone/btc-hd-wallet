/-
Translated Python (`BtcHd.Code`, generated from /repo by harness/translate.py) = hand-written model:
`bech32.py` `bech32_polymod`, `bech32_hrp_expand`, `bech32_verify_checksum`, `bech32_create_checksum`,
`convertbits`, `bech32_encode`, `bech32_decode`, and the segwit-address `decode` / `encode` — all of `bech32.py`.
-/
import BtcHd.Lemmas.TrBech32

namespace BtcHd.Translated
open BtcHd

theorem polymod_eq (values : List Nat) : Code.bech32_polymod values = Bech32.polymod values := by
  unfold Code.bech32_polymod Bech32.polymod
  simp only [List.forIn_pure_yield_eq_foldl, Id.run_pure, pure_bind]
  congr 1
  funext chk value
  simp only [Bech32.polymodStep, Bech32.gen, Generated.polymodGen,
    show List.range 5 = [0, 1, 2, 3, 4] from rfl, List.foldl_cons, List.foldl_nil, and_one_ne_zero]
  rfl

theorem hrpExpand_eq (hrp : List Char) : Code.bech32_hrp_expand hrp = Bech32.hrpExpand hrp := by
  simp [Code.bech32_hrp_expand, Bech32.hrpExpand]

theorem verifyChecksum_eq (hrp : List Char) (data : List Nat) :
    Code.bech32_verify_checksum hrp data = Bech32.verifyChecksum hrp data := by
  unfold Code.bech32_verify_checksum Bech32.verifyChecksum
  simp only [polymod_eq, hrpExpand_eq, Bech32.bech32mConst]
  rfl

/-- the Nat subtraction `5 - i` is the same expression on both sides -/
theorem createChecksum_eq (hrp : List Char) (data : List Nat) (spec : Bech32.Encoding) :
    Code.bech32_create_checksum hrp data spec = Bech32.createChecksum hrp data spec := by
  unfold Code.bech32_create_checksum Bech32.createChecksum
  simp only [polymod_eq, hrpExpand_eq]
  cases spec <;> simp [Bech32.constOf, Bech32.bech32mConst]

/-- For `tobits = 0` the Python `while bits >= tobits` loop does not terminate once it is entered (and with
`frombits = 0` too, `1 << -1` raises before it): excluded by `h`.  Otherwise both bounded loops run to
completion, and checking the value range inside or before the loop gives the same result. -/
theorem convertbits_eq (data : List Nat) (frombits tobits : Nat) (pad : Bool) (h : 0 < tobits) :
    Code.convertbits data frombits tobits pad = Bech32.convertbits data frombits tobits pad := by
  unfold Code.convertbits
  simp only [forIn_break (m := Option), List.length_range]
  simp only [Option.pure_def, Option.bind_eq_bind, Option.bind_none, Option.bind_some,
    forIn_raise_option]
  -- the steps agree (second goal, the heart: both bounded inner loops run to completion)
  rw [List.foldl_ext _ (Bech32.convStep frombits tobits) _ fun s a _ => ?_]
  · unfold Bech32.convertbits
    generalize List.foldl (Bech32.convStep frombits tobits) (0, 0, []) data = st
    obtain ⟨acc, bits, ret⟩ := st
    have hany : (data.any fun a => decide (a < 0 ∨ a >>> frombits ≠ 0)) =
        data.any (fun v => decide (v >>> frombits ≠ 0)) := by simp
    rw [hany]
    cases data.any (fun v => decide (v >>> frombits ≠ 0))
    · cases pad
      · simp
      · by_cases hb : bits = 0 <;> simp [hb]
    · simp
  · unfold Bech32.convStep
    simp only []
    rw [emit_eq_whileFuel h _ _ _ (s.2.1 + frombits + 1) _ _ (Nat.lt_succ_self _)
      (Nat.lt_succ_of_le (Nat.div_le_self _ _))]

section codec
open BtcHd.Bech32

/-- character range, mixed-case rule (`lower()` / `upper()` comparison = an upper-case and a lower-case
letter both occur), last `'1'`, the three length rules, charset membership, checksum -/
theorem bech32_decode_eq (bech : List Char) : Code.bech32_decode bech = Bech32.bech32Decode bech := by
  unfold Code.bech32_decode Bech32.bech32Decode
  simp only [verifyChecksum_eq, Option.bind_eq_bind, Option.bind_none, if_false, rfind_eq,
    mixed_case_iff]
  have hl : List.map Py.lowerAscii bech = List.map toLowerAscii bech := by
    congr 1; funext c; exact lowerAscii_eq c
  rw [hl]
  have hany : (bech.any fun x => decide (x.toNat < 33 ∨ x.toNat > 126)) =
      (bech.any fun x => decide (x.toNat < 33) || decide (x.toNat > 126)) := by
    congr 1; funext x; simp
  rw [hany]
  by_cases h1 : (bech.any fun x => decide (x.toNat < 33) || decide (x.toNat > 126)) = true
  · simp [h1]
  · by_cases h2 : (bech.any isUpperAscii && bech.any isLowerAscii) = true
    · simp [h1, h2]
    · simp only [h1, h2]
      cases hr : rfindOne (List.map toLowerAscii bech) with
      | none => simp
      | some pos =>
        have e1 : ((pos : Int) < 1) ↔ pos < 1 := by omega
        have e2 : ((pos : Int) + 7 > ((List.map toLowerAscii bech).length : Int)) ↔
            pos + 7 > (List.map toLowerAscii bech).length := by omega
        have e3 : ((pos : Int) + 1).toNat = pos + 1 := by omega
        have e4 : (pos : Int).toNat = pos := by omega
        simp only [e1, e2, e3, e4]
        have hc : Generated.charset = charset := rfl
        rw [hc]
        cases verifyChecksum _ _ <;> rfl

/-- `(None, None)` = `none` -/
theorem decode_eq (hrp addr : List Char) : Code.decode hrp addr = Bech32.decode hrp addr := by
  unfold Code.decode Bech32.decode
  simp only [bech32_decode_eq, convertbits_eq _ _ _ _ (by decide : 0 < 8)]
  cases Bech32.bech32Decode addr with
  | none => rfl
  | some r =>
    obtain ⟨hrpgot, data, spec⟩ := r
    simp only [Option.bind_eq_bind, Option.bind_some, false_or]
    by_cases hh : hrpgot ≠ hrp
    · simp [hh]
    · simp only [hh]
      cases data with
      | nil =>
        have : convertbits (List.drop 1 ([] : List Nat)) 5 8 false = some [] := by decide
        rw [this]; simp
      | cons v tail =>
        cases convertbits (List.drop 1 (v :: tail)) 5 8 false with
        | none => rfl
        | some decoded =>
          simp only [Option.bind_some, List.getElem!_cons_zero]
          rfl

/-- `CHARSET[d]` out of range = IndexError = `none` -/
theorem bech32_encode_eq (h : List Char) (d : List Nat) (s : Bech32.Encoding) :
    Code.bech32_encode h d s = Bech32.bech32Encode h d s := by
  unfold Code.bech32_encode Bech32.bech32Encode
  simp only [Translated.createChecksum_eq]
  exact (Option.map_eq_bind ..).symm

theorem encode_eq (hrp : List Char) (witver : Nat) (witprog : Bytes) :
    Code.encode hrp witver witprog = Bech32.encode hrp witver witprog := by
  unfold Code.encode Bech32.encode
  simp only [bech32_encode_eq, decode_eq, convertbits_eq _ _ _ _ (by decide : 0 < 5)]
  cases convertbits (List.map (fun x => x.toNat) witprog) 8 5 true with
  | none => rfl
  | some conv =>
    simp only [Option.bind_eq_bind, Option.bind_some, List.singleton_append]
    cases bech32Encode hrp (witver :: conv) (if witver = 0 then Encoding.bech32 else Encoding.bech32m) with
    | none => rfl
    | some ret =>
      simp only [Option.bind_some]
      cases Bech32.decode hrp ret <;> simp

end codec

example : Code.encode ['b', 'c'] 0 (List.replicate 20 0) = Bech32.encode ['b', 'c'] 0 (List.replicate 20 0) :=
  encode_eq _ _ _

/-- a concrete instance of `convertbits_eq` (the hypothesis is satisfiable) -/
example : Code.convertbits [255, 1] 8 5 true = Bech32.convertbits [255, 1] 8 5 true :=
  convertbits_eq _ _ _ _ (by decide)
example : Code.convertbits [255, 1] 8 5 true = some [31, 28, 0, 16] := by decide +kernel
example : Code.convertbits [31, 28, 0, 16] 5 8 false = some [255, 1] := by decide +kernel
/-- the hypothesis of `convertbits_eq` cannot be dropped: the two fuel bounds differ for `tobits = 0` -/
example : Code.convertbits [1] 1 0 true ≠ Bech32.convertbits [1] 1 0 true := by decide +kernel
example : Code.convertbits [256] 8 5 true = none := by decide +kernel
example : Code.convertbits [31] 5 8 false = none := by decide +kernel
example : Code.bech32_polymod [3, 3, 0, 2, 3] = 36798531 := by decide +kernel
example : Code.bech32_hrp_expand ['b', 'c'] = [3, 3, 0, 2, 3] := by decide +kernel
example : Code.bech32_create_checksum ['b', 'c'] [0] .bech32 = Bech32.createChecksum ['b', 'c'] [0] .bech32 := by
  decide +kernel
example : Code.bech32_verify_checksum ['b', 'c']
    ([0] ++ Code.bech32_create_checksum ['b', 'c'] [0] .bech32m) = some .bech32m := by decide +kernel

end BtcHd.Translated
