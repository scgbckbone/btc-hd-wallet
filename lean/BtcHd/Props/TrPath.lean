/-
Translated Python (`BtcHd.Code`, generated from /repo by harness/translate.py) = hand-written model:
`wallet_utils.py` `Bip32Path.convert_hardened`, `Bip32Path.is_hardened`, `list_get`, `Bip32Path.is_private`,
`Bip32Path.integrity_check` and `Bip32Path.parse` (C17).
-/
import BtcHd.Lemmas.Translated
import BtcHd.Lemmas.Path

namespace BtcHd.Translated
open BtcHd

/-- digit test, range test, offset: the tail of `convert_hardened`, for either kind of component -/
private theorem convert_tail (ok : Prop) [Decidable ok] (num B : Nat) (f : Nat → Nat) :
    (if ¬ ok then none else if num ≥ B then none else some (f num) : Option Nat) =
      (if ok then some num else none).bind fun n => if n < B then some (f n) else none := by
  by_cases h : ok <;> by_cases hn : num < B <;> simp [h, hn]

/-- The translated `convert_hardened` is the model's `convertHardened` on every string, the empty one included (both
give `none` there, where Python raises IndexError). -/
theorem convertHardened_eq (s : List Char) : Code.convert_hardened s = Path.convertHardened s := by
  rcases List.eq_nil_or_concat s with rfl | ⟨d, c, rfl⟩
  · rfl
  rw [List.concat_eq_append]
  unfold Code.convert_hardened
  have hmem : (some c ∈ ([Char.ofNat 39, Char.ofNat 104]).map some) ↔ (c = '\'' ∨ c = 'h') := by simp
  simp only [asciiDigits_iff, List.getLast?_append, List.getLast?_singleton, Option.some_or, hmem,
    Basics.dropLastN_one, List.dropLast_concat]
  by_cases hc : c = '\'' ∨ c = 'h'
  · rw [Path.convertHardened_marked hc]
    simp only [hc, decide_true, if_true]
    exact convert_tail _ _ _ (· + 2 ^ 31)
  · rw [Path.convertHardened_unmarked (l := c) (by simp) (fun e => hc (.inl e)) fun e => hc (.inr e)]
    simp only [hc, decide_false, Bool.false_eq_true, if_false]
    exact convert_tail _ _ _ id

theorem isHardened_eq (n : Nat) : Code.is_hardened n = decide (2 ^ 31 ≤ n) := by
  simp [Code.is_hardened]

section parser
open BtcHd.Path

/-- the loop of `integrity_check` started with the flag `none_found = nf` -/
theorem forIn_integrity (slots : List (Option Nat)) (nf : Bool) :
    (do let _ ← forIn (m := Option) slots nf fun item __s =>
          if item = none then pure (ForInStep.yield true)
          else if __s = true then (do (none : Option PUnit); pure (ForInStep.yield __s))
          else pure (ForInStep.yield __s)
        pure ()) =
      if (if nf then slots.all Option.isNone else integrity slots) = true then some () else none := by
  induction slots generalizing nf with
  | nil => cases nf <;> rfl
  | cons a l ih =>
    rw [List.forIn_cons]
    cases a with
    | none => exact (ih true).trans (by cases nf <;> rfl)
    | some v =>
      cases nf with
      | true => rfl
      | false => exact ih false

/-- The translated `integrity_check` (on the five optional slots) is the model's `integrity`: no value after a `None`. -/
theorem integrity_check_eq (slots : List (Option Nat)) :
    Code.integrity_check slots = if integrity slots then some () else none :=
  forIn_integrity slots false

theorem is_private_eq (sign : List Char) : Code.is_private sign = decide (sign = ['m']) := by
  unfold Code.is_private
  by_cases h : sign = ['m'] <;> simp [h]

theorem code_slot (o : Option (List Char)) :
    (if o ≠ none ∧ o ≠ some [] then (do let x ← convertHardened (o.getD []); pure (some x)) else pure none
      : Option (Option Nat)) = slot (o.getD []) := by
  rcases o with _ | c
  · rfl
  · by_cases hc : c = []
    · subst hc; rfl
    · rw [if_pos ⟨nofun, by simpa using hc⟩, Option.getD_some, slot_of_ne_nil hc]
      cases convertHardened c <;> rfl

private theorem bind_five {α β γ : Type} (f : α → Option β) (a b c d e : α) (k : List β → Option γ) :
    (do let v1 ← f a; let v2 ← f b; let v3 ← f c; let v4 ← f d; let v5 ← f e; k [v1, v2, v3, v4, v5]) =
      ([a, b, c, d, e].mapM f).bind k := by
  simp only [List.mapM_cons, List.mapM_nil, Option.bind_eq_bind, Option.pure_def, Option.bind_assoc,
    Option.bind_some]

/-- The translated `Bip32Path.parse` (split at `/`, root mark, `list_get` at positions 1..5, `convert_hardened(x) if x
else None`, the constructor's integrity check) returns the five optional slots; keeping the non-`None` ones gives
exactly the model's `Path.parse` — on every string (K1 included: components beyond the fifth are never looked at). -/
theorem path_parse_eq (s : List Char) :
    (Code.path_parse s).map (fun r => (⟨r.1.filterMap id, r.2⟩ : Path.Path)) = Path.parse s := by
  obtain ⟨root, comps, hs⟩ := List.exists_cons_of_ne_nil (Text.splitOn_ne_nil '/' s)
  rw [parse_of_splitOn hs, ← parseParts_getD]
  unfold Code.path_parse parseParts slotLevels
  simp only [convertHardened_eq, integrity_check_eq, is_private_eq, Code.list_get, code_slot]
  rw [hs]
  simp only [List.getElem!_cons_zero, List.mem_cons, List.not_mem_nil, or_false, List.getElem?_cons_succ,
    List.take_succ_cons, List.take_zero]
  by_cases hr : root = ['m'] ∨ root = ['M']
  · rw [if_neg (not_not_intro hr), if_pos hr]
    -- the code's five binds are the model's `mapM` over the five (padded) components
    refine (congrArg _ (bind_five slot _ _ _ _ _ fun vals => do
      (if integrity vals = true then some () else none); pure (vals, decide (root = ['m'])))).trans ?_
    cases List.mapM slot _ with
    | none => rfl
    | some vals => by_cases hi : integrity vals = true <;> simp [hi]
  · rw [if_pos hr, if_neg hr]; rfl

end parser

example : (Code.path_parse "m/44'/0'/0'/0/7".toList).map (·.1.filterMap id) = some [2147483692, 2147483648, 2147483648, 0, 7] := by
  rw [String.toList_ofList]; decide +kernel
example : Code.path_parse "m/0//1".toList = none := by
  rw [String.toList_ofList]; decide +kernel
example : Code.path_parse "x/0".toList = none := by
  rw [String.toList_ofList]; decide +kernel

example : Code.convert_hardened [] = none := by decide +kernel
example : Code.convert_hardened "44'".toList = some (44 + 2 ^ 31) := by
  rw [String.toList_ofList]; decide +kernel
example : Code.convert_hardened "0h".toList = some (2 ^ 31) := by
  rw [String.toList_ofList]; decide +kernel
example : Code.convert_hardened "4294967295".toList = some 4294967295 := by
  rw [String.toList_ofList]; decide +kernel
example : Code.convert_hardened "4294967296".toList = none := by
  rw [String.toList_ofList]; decide +kernel
example : Code.convert_hardened "2147483648'".toList = none := by
  rw [String.toList_ofList]; decide +kernel
example : Code.convert_hardened "'".toList = none := by
  rw [String.toList_ofList]; decide +kernel
example : Code.convert_hardened "1x".toList = none := by
  rw [String.toList_ofList]; decide +kernel
example : Code.convert_hardened ['1', Char.ofNat 0x663] = none := by decide +kernel
example : Code.is_hardened (2 ^ 31) = true := by decide +kernel
example : Code.is_hardened (2 ^ 31 - 1) = false := by decide +kernel

end BtcHd.Translated
