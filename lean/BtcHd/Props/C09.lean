/-
C09 — Key encodings (WIF, SEC) round-trip; out-of-range keys are rejected.

"For every secret scalar k in [1, n-1] the public key is k*G on secp256k1, its compressed
and uncompressed SEC encodings parse back to the same key, and the WIF string for each
combination of compressed/uncompressed and mainnet/testnet has the standard payload and
decodes back to k.  Scalars 0 and >= n, byte strings of the wrong length, and SEC encodings
that are not points on the curve are rejected with an error wherever a key can be
constructed."

The model functions are those of `Model/Keys.lean` (`PrivateKey`,
`wif`, `from_wif`) and `Model/Bip32.lean` (`private_key`, `public_key`).  The curve is the
abstract `Curve` interface: group facts are the explicit `CurveLaws` hypotheses
(`Lemmas/CurveLaws.lean`); the double SHA-256 enters only through its output length.
-/
import BtcHd.Lemmas.XKey
import BtcHd.Lemmas.ToyNodes
import BtcHd.Lemmas.RealSecp

namespace BtcHd.C09
open BtcHd Bip32 XKey Keys BeFixed

variable {Pt : Type}

/-- the WIF prefixes in the source are the standard ones -/
theorem wif_prefixes : Generated.wifMain = 0x80 ∧ Generated.wifTest = 0xef := by decide

/-- **standard payload**: the WIF string passes Base58Check and carries
`80|ef ‖ ser256(k) ‖ [01 if compressed]` -/
theorem wif_payload (P : Prims Pt) (hlen : ∀ x, 4 ≤ (P.hash256 x).length) (k : Nat)
    (c t : Bool) :
    Base58.decodeCheck P.hash256 (wif P k c t)
      = some ([if t then 0xef else 0x80] ++ beFixed 32 k ++ (if c then [1] else [])) := by
  unfold wif
  rw [C10.decodeCheck_encodeCheck _ hlen]
  cases t <;> rfl

/-- the byte string that `wif` Base58-encodes: prefix byte, then 37 (compressed) or 36 bytes -/
private theorem wif_bytes (P : Prims Pt) (hlen : ∀ x, 4 ≤ (P.hash256 x).length) (k : Nat) (c t : Bool) :
    ∃ rest : Bytes, rest.length = (if c then 37 else 36) ∧
      wif P k c t = Base58.encode ([if t then 0xef else 0x80] ++ rest) := by
  refine ⟨privBytes k ++ ((if c then [1] else []) ++
    (P.hash256 ([if t then 0xef else 0x80] ++ privBytes k ++ (if c then [1] else []))).take 4),
    ?_, ?_⟩
  · have := hlen ([if t then 0xef else 0x80] ++ privBytes k ++ (if c then [1] else []))
    rw [List.length_append, List.length_append, List.length_take, Nat.min_eq_left this, privBytes,
      beFixed_length]
    cases c <;> rfl
  · unfold wif Base58.encodeCheck
    cases t <;> simp only [List.append_assoc] <;> rfl

/-- **first character and length**: for every scalar (the whole 256-bit range, not only
`[1, n-1]`) the WIF string starts with `K` or `L` (compressed, mainnet), `c` (compressed,
testnet), `5` (uncompressed, mainnet), `9` (uncompressed, testnet) and has 52 (compressed) or
51 characters -/
theorem wif_first_char (P : Prims Pt) (hlen : ∀ x, 4 ≤ (P.hash256 x).length) (k : Nat)
    (c t : Bool) :
    ∃ ch rest, wif P k c t = ch :: rest ∧ rest.length = (if c then 51 else 50) ∧
      (match c, t with
        | true, false => ch = 'K' ∨ ch = 'L'
        | true, true => ch = 'c'
        | false, false => ch = '5'
        | false, true => ch = '9') := by
  obtain ⟨rest, hl, he⟩ := wif_bytes P hlen k c t
  rw [he]
  -- `a`, `b` bound the Base58 digit of the first character (`'5'` = 4, `'9'` = 8, `'K'` = 18,
  -- `'L'` = 19, `'c'` = 35), `d` is the number of digits after it; the four cases are
  -- uncompressed main / test, compressed main / test
  cases c <;> cases t <;> simp only [Bool.false_eq_true, if_false, if_true] at hl ⊢
  · obtain ⟨x, tl, h, hl', _, _⟩ := Base58.encode_append_of_bounds [0x80] rest (a := 4) (b := 5)
      (d := 50) (by decide) (by decide) (by decide) (by rw [hl]; decide) (by rw [hl]; decide)
    obtain rfl : x = 4 := by omega
    exact ⟨_, tl, h, hl', by decide⟩
  · obtain ⟨x, tl, h, hl', _, _⟩ := Base58.encode_append_of_bounds [0xef] rest (a := 8) (b := 9)
      (d := 50) (by decide) (by decide) (by decide) (by rw [hl]; decide) (by rw [hl]; decide)
    obtain rfl : x = 8 := by omega
    exact ⟨_, tl, h, hl', by decide⟩
  · obtain ⟨x, tl, h, hl', _, _⟩ := Base58.encode_append_of_bounds [0x80] rest (a := 18) (b := 20)
      (d := 51) (by decide) (by decide) (by decide) (by rw [hl]; decide) (by rw [hl]; decide)
    obtain rfl | rfl : x = 18 ∨ x = 19 := by omega
    · exact ⟨_, tl, h, hl', by decide⟩
    · exact ⟨_, tl, h, hl', by decide⟩
  · obtain ⟨x, tl, h, hl', _, _⟩ := Base58.encode_append_of_bounds [0xef] rest (a := 35) (b := 36)
      (d := 51) (by decide) (by decide) (by decide) (by rw [hl]; decide) (by rw [hl]; decide)
    obtain rfl : x = 35 := by omega
    exact ⟨_, tl, h, hl', by decide⟩

/-- **WIF round trip**: for `1 ≤ k < n` (with `n ≤ 2^256`) `from_wif(wif(k))` is `k`, for all four
combinations of compressed / uncompressed and mainnet / testnet -/
theorem fromWif_wif (P : Prims Pt) (hlen : ∀ x, 4 ≤ (P.hash256 x).length)
    (hn : P.curve.n ≤ 2 ^ 256) (k : Nat) (h1 : 1 ≤ k) (h2 : k < P.curve.n) (c t : Bool) :
    fromWif P (wif P k c t) = some k := by
  obtain ⟨ch, rest, hs, _, hch⟩ := wif_first_char P hlen k c t
  have hm := mkPriv_beFixed h1 h2 hn
  rw [fromWif, wif_payload P hlen, hs]
  -- the first character tells `from_wif` whether the payload ends in the `01` flag
  cases c <;> simp only [Option.bind_some, Bool.false_eq_true, reduceIte]
  · have : ¬ (ch = 'K' ∨ ch = 'L' ∨ ch = 'c') := by cases t <;> (subst hch; decide)
    simpa [this] using hm
  · have : ch = 'K' ∨ ch = 'L' ∨ ch = 'c' := by
      cases t
      · exact hch.elim .inl (.inr ∘ .inl)
      · exact .inr (.inr hch)
    rw [if_pos this, List.getLast?_concat, if_pos rfl, List.dropLast_concat]
    simpa using hm

/-- **`from_wif` never yields an out-of-range key**: whatever string is given, a returned scalar
satisfies `1 ≤ k < n` (payloads encoding 0, a value ≥ n, or a wrong number of bytes raise) -/
theorem fromWif_sound (P : Prims Pt) (s : List Char) (k : Nat) (h : fromWif P s = some k) :
    1 ≤ k ∧ k < P.curve.n := by
  unfold fromWif at h
  obtain ⟨decoded, _, h⟩ := Option.bind_eq_some_iff.mp h
  split at h
  · cases h
  · split_ifs at h <;> exact ⟨(mkPriv_eq_some.mp h).2.1, (mkPriv_eq_some.mp h).2.2.1⟩

/-- **rejection (bytes)**: `PrivateKey(bytes)` raises on a wrong length, on zero and on values ≥ n -/
theorem mkPriv_rejects (C : Curve Pt) (bs : Bytes)
    (h : bs.length ≠ 32 ∨ beToNat bs = 0 ∨ C.n ≤ beToNat bs) : mkPriv C bs = none :=
  mkPriv_eq_none.mpr h

/-- **acceptance (bytes)**: the 32-byte encoding of any `1 ≤ k < n` is accepted and yields `k` -/
theorem mkPriv_accepts (C : Curve Pt) (k : Nat) (h1 : 1 ≤ k) (h2 : k < C.n) (hn : C.n ≤ 2 ^ 256) :
    mkPriv C (beFixed 32 k) = some k :=
  mkPriv_beFixed h1 h2 hn

/-- exactly: `PrivateKey(bytes)` succeeds iff the input is 32 bytes with value in `[1, n-1]`,
and then the key is that value -/
theorem mkPriv_iff (C : Curve Pt) (bs : Bytes) (k : Nat) :
    mkPriv C bs = some k ↔ bs.length = 32 ∧ 1 ≤ k ∧ k < C.n ∧ beToNat bs = k := by
  rw [mkPriv_eq_some, eq_comm (a := k)]

/-- **rejection (int)**: `PrivateKey(int)` / `from_int` raises on 0 and on every `k ≥ n`,
including `k ≥ 2^256` where `to_bytes(32)` overflows -/
theorem privFromInt_rejects (C : Curve Pt) (k : Nat) (h : k = 0 ∨ C.n ≤ k) :
    privFromInt C k = none := by
  unfold privFromInt
  by_cases hk : k < 256 ^ 32
  · rw [toBytesBE_eq_some hk, Option.bind_some, mkPriv_eq_none, BeFixed.beToNat_beFixed hk]
    omega
  · rw [toBytesBE_eq_none (Nat.le_of_not_lt hk)]
    rfl

/-- **acceptance (int)**: every `1 ≤ k < n` is accepted and yields `k` -/
theorem privFromInt_accepts (C : Curve Pt) (k : Nat) (h1 : 1 ≤ k) (h2 : k < C.n)
    (hn : C.n ≤ 2 ^ 256) : privFromInt C k = some k := by
  unfold privFromInt
  rw [toBytesBE_eq_some (len := 32) (by omega), Option.bind_some]
  exact mkPriv_beFixed h1 h2 hn

/-- the key stored in a node is usable only if it is in range: `private_key` of any node, when
it does not raise, is a scalar in `[1, n-1]` -/
theorem prvKey_sound (P : Prims Pt) (nd : Node) (k : Nat) (h : prvKey P nd = some k) :
    1 ≤ k ∧ k < P.curve.n :=
  prvKey_range h

/-- **the public key is k·G**: the public key of a private node whose stored scalar is `k` is
`mulGen k` (python-ecdsa's `SigningKey.get_verifying_key`) -/
theorem pub_is_kG (P : Prims Pt) (nd : Node) (k : Nat) (hprv : nd.isPrv = true)
    (hk : prvKey P nd = some k) : pubKey P nd = some (P.curve.mulGen k) :=
  pubKey_of_prvKey hprv hk

/-- for a well-formed private node the scalar is the integer value of the stored key bytes, it
lies in `[1, n-1]`, and the public key is that multiple of the generator, a finite point -/
theorem pub_is_kG_wf {P : Prims Pt} {nd : Node} (hC : CurveLaws P.curve) (hwf : nd.WF P)
    (hprv : nd.isPrv = true) :
    1 ≤ beToNat nd.key ∧ beToNat nd.key < P.curve.n ∧
      prvKey P nd = some (beToNat nd.key) ∧
      pubKey P nd = some (P.curve.mulGen (beToNat nd.key)) ∧
      ¬ P.curve.isInf (P.curve.mulGen (beToNat nd.key)) := by
  have hk := prvKey_wf (Nat.le_of_lt hC.n_lt) hwf hprv
  obtain ⟨h1, h2⟩ := prvKey_range hk
  exact ⟨h1, h2, hk, pubKey_of_prvKey hprv hk, hC.mulGen_notInf _ h1 h2⟩

/-- **SEC round trip**: under the curve laws, both the compressed and the uncompressed SEC
encoding of `k·G` (`1 ≤ k < n`) parse back to `k·G`; the compressed one has 33 bytes and
starts with `02` or `03` -/
theorem sec_roundtrip {C : Curve Pt} (hC : CurveLaws C) (k : Nat) (h1 : 1 ≤ k) (h2 : k < C.n) :
    (∀ c, C.parse (C.sec c (C.mulGen k)) = some (C.mulGen k)) ∧
      (C.sec true (C.mulGen k)).length = 33 ∧
      ((C.sec true (C.mulGen k)).head? = some 2 ∨ (C.sec true (C.mulGen k)).head? = some 3) :=
  have hinf := hC.mulGen_notInf k h1 h2
  ⟨fun c => hC.parse_sec c _ hinf, hC.sec_len _ hinf, hC.sec_prefix _ hinf⟩

/-- the same for any finite point, and conversely a 33-byte string that parses is the
compressed encoding of the parsed point (so public-key bytes and points correspond one to one) -/
theorem sec_roundtrip_point {C : Curve Pt} (hC : CurveLaws C) :
    (∀ c pt, ¬ C.isInf pt → C.parse (C.sec c pt) = some pt) ∧
      (∀ bs pt, bs.length = 33 → C.parse bs = some pt → C.sec true pt = bs ∧ ¬ C.isInf pt) :=
  ⟨hC.parse_sec, fun bs pt hl hp => ⟨hC.sec_parse bs pt hl hp, hC.parse_notInf bs pt hp⟩⟩

/-- **invalid SEC bytes are rejected wherever a public key is needed**: if the curve library
refuses the stored key bytes of a public node (`MalformedPointError`: not a point on the curve,
wrong length or prefix), then `public_key`, `fingerprint`, `serialize_public`,
`extended_public_key` and `ckd` all raise -/
theorem invalid_sec_rejected (P : Prims Pt) (nd : Node) (hpub : nd.isPrv = false)
    (hbad : P.curve.parse nd.key = none) (version : Option Nat) (i : Nat) :
    pubKey P nd = none ∧ fingerprint P nd = none ∧ serializePublic P nd version = none ∧
      extendedPublicKey P nd version = none ∧ ckd P nd i = none := by
  have hK : pubKey P nd = none := (pubKey_of_pub hpub).trans hbad
  refine ⟨hK, by rw [fingerprint, hK]; rfl, by rw [serializePublic, hK]; rfl,
    by rw [extendedPublicKey, serializePublic, hK]; rfl, ?_⟩
  unfold ckd ckdPub
  rw [hpub, hbad]
  simp

/-! ### the concrete parser of the executable model

The driver (and hence the differential test against python-ecdsa) runs `Real.Secp.parse`.
For that concrete function the rejection half of the property is proved outright, with no
curve hypothesis: it accepts nothing that is not on the curve.  (The acceptance half for the
concrete curve is `RealInst.real_sec_roundtrip`, `real_sec_roundtrip_point` in `Props/RealInst/C09.lean`.) -/

/-- whatever the concrete SEC parser accepts is a finite point with `x, y < p` and
`y² = x³ + 7 (mod p)`, read from 33, 64 or 65 bytes -/
theorem real_parse_sound (bs : Bytes) (pt : Real.Secp.Pt) (h : Real.Secp.parse bs = some pt) :
    (∃ x y, pt = some (x, y) ∧ Real.Secp.onCurve x y = true) ∧
      (bs.length = 33 ∨ bs.length = 64 ∨ bs.length = 65) :=
  Real.Secp.parse_sound bs pt h

/-- the concrete SEC parser rejects: any other length; a 33-byte string not starting with
`02`/`03`; a compressed encoding whose abscissa is ≥ p or carries no curve point; an
uncompressed / hybrid encoding whose coordinates violate the curve equation -/
theorem real_parse_rejects :
    (∀ bs : Bytes, bs.length ≠ 33 → bs.length ≠ 64 → bs.length ≠ 65 →
      Real.Secp.parse bs = none) ∧
    (∀ (pre : UInt8) (rest : Bytes), (pre :: rest).length = 33 → pre ≠ 2 → pre ≠ 3 →
      Real.Secp.parse (pre :: rest) = none) ∧
    (∀ (pre : UInt8) (rest : Bytes), (pre :: rest).length = 33 →
      (Real.Secp.p ≤ beToNat rest ∨ Real.Secp.sqrt?
        ((beToNat rest * beToNat rest % Real.Secp.p * beToNat rest + 7) % Real.Secp.p) = none) →
      Real.Secp.parse (pre :: rest) = none) ∧
    (∀ (pre : UInt8) (rest : Bytes), (pre :: rest).length = 65 →
      Real.Secp.onCurve (beToNat (rest.take 32)) (beToNat (rest.drop 32)) = false →
      Real.Secp.parse (pre :: rest) = none) :=
  ⟨Real.Secp.parse_wrong_length, Real.Secp.parse_bad_prefix,
    Real.Secp.parse_compressed_off_curve, Real.Secp.parse_uncompressed_off_curve⟩

/-- the hypotheses are satisfiable and the round trip is not trivial: on the toy instance
(which satisfies `CurveLaws`) the WIF of `k = 3` decodes to 3 in all four flavours -/
example : ∀ c t, fromWif Toy.prims (wif Toy.prims 3 c t) = some 3 :=
  fromWif_wif Toy.prims Toy.hash256_len (by decide) 3 (by decide)
    (by decide)

example : CurveLaws Toy.prims.curve ∧ 1 ≤ 3 ∧ 3 < Toy.prims.curve.n := ⟨Toy.laws, by decide, by decide⟩

end BtcHd.C09
