/-
C10 — Base58Check is lossless and never accepts a string with a wrong checksum.

Property theorems only (helper lemmas are in `Lemmas/Base58.lean`).  The model
(`Model/Base58.lean`) mirrors `helper.py` and is defined over the alphabet
extracted from the source on every run.  The double SHA-256 is a parameter `h`;
only its output length is used.
-/
import BtcHd.Lemmas.Base58

namespace BtcHd.C10
open BtcHd Base58 Digits Basics

/-- the alphabet in the source is the Bitcoin Base58 alphabet -/
theorem alphabet_is_bitcoin :
    alphabet = "123456789ABCDEFGHJKLMNPQRSTUVWXYZabcdefghijkmnopqrstuvwxyz".toList := by
  rw [String.toList_ofList]; rfl

/-- 58 distinct characters, none of the look-alikes `0 O I l` -/
theorem alphabet_wellformed :
    alphabet.length = 58 ∧ alphabet.Nodup ∧ '0' ∉ alphabet ∧ 'O' ∉ alphabet ∧ 'I' ∉ alphabet
      ∧ 'l' ∉ alphabet :=
  ⟨alphabet_length, alphabet_nodup, by decide +kernel⟩

/-- shape of every encoding: one `'1'` per leading zero byte, then the base-58
digits of the value (which never start with `'1'`) -/
theorem encode_shape (bs : Bytes) :
    ∃ body, bs = List.replicate (leadingZeros bs) 0 ++ body ∧ body.head? ≠ some 0 ∧
      encode bs = List.replicate (leadingZeros bs) (alphaAt 0)
        ++ (digitsBE 58 (beToNat body)).map alphaAt := by
  refine ⟨beMinimal (beToNat bs), eq_normal_bytes bs, ?_, ?_⟩
  · rw [beMinimal_eq]
    exact head?_map_digitsBE_ne (r := UInt8.toNat) (by decide) (fun _ => UInt8.toNat_ofNat_of_lt') _
  · rw [beToNat_beMinimal, encode, encBody_eq, List.append_nil]

/-- leading zero bytes map one-for-one to leading `'1'` characters -/
theorem leading_ones (bs : Bytes) : leadingOnes (encode bs) = leadingZeros bs :=
  leadingOnes_normal _ _

/-- **decode ∘ encode = id** on every non-empty byte string -/
theorem decode_encode (bs : Bytes) (hne : bs ≠ []) : decode (encode bs) = some bs := by
  have hb := eq_normal_bytes bs
  rw [encode, decode_normal, ← hb]
  -- value 0 and no zero byte would mean `bs = []`
  intro hn hk
  rw [hk, hn, beMinimal] at hb
  exact hne hb

theorem decode_rejects_foreign (s : List Char) (h : ∃ c ∈ s, c ∉ alphabet) : decode s = none := by
  obtain ⟨c, hc, hn⟩ := h
  rw [decode, decNum_eq, if_neg fun hall => hn (hall c hc)]
  rfl

theorem decode_total (s : List Char) (h : ∀ c ∈ s, c ∈ alphabet) : ∃ bs, decode s = some bs := by
  rw [decode, decNum_eq, if_pos h]
  exact ⟨_, rfl⟩

/-- **encode ∘ decode = id** on every non-empty string over the alphabet -/
theorem encode_decode (s : List Char) (hne : s ≠ []) (h : ∀ c ∈ s, c ∈ alphabet) :
    ∃ bs, decode s = some bs ∧ encode bs = s := by
  obtain ⟨k, n, rfl⟩ := exists_normal h
  refine ⟨_, decode_normal fun hn hk => hne ?_, by rw [encode, leadingZeros_normal, beToNat_normal]⟩
  rw [hk, hn, encBody]
  rfl

/-- **Soundness**: a payload is returned only when the decoded bytes are that
payload followed by the first four bytes of its hash. -/
theorem decodeCheck_sound (h : Bytes → Bytes) (s : List Char)
    (p : Bytes) (hs : decodeCheck h s = some p) :
    decode s = some (p ++ (h p).take 4) := by
  obtain ⟨raw, hd, hr⟩ := Option.bind_eq_some_iff.mp hs
  obtain ⟨hc, hp⟩ := Option.ite_none_right_eq_some.mp hr
  cases hp
  rw [hd, hc, dropLastN_append_lastN]

/-- **Completeness**: a string decoding to `p ‖ checksum(p)` is accepted with payload `p`. -/
theorem decodeCheck_complete (h : Bytes → Bytes) (hlen : ∀ x, 4 ≤ (h x).length) (s : List Char)
    (p : Bytes) (hs : decode s = some (p ++ (h p).take 4)) : decodeCheck h s = some p := by
  have hl : ((h p).take 4).length = 4 := List.length_take_of_le (hlen p)
  rw [decodeCheck, hs, Option.bind_some]
  simp only [dropLastN_append p hl, lastN_append p hl, if_true]

/-- the checksummed decoder accepts **iff** the checksum matches -/
theorem decodeCheck_iff (h : Bytes → Bytes) (hlen : ∀ x, 4 ≤ (h x).length) (s : List Char)
    (p : Bytes) : decodeCheck h s = some p ↔ decode s = some (p ++ (h p).take 4) :=
  ⟨decodeCheck_sound h s p, decodeCheck_complete h hlen s p⟩

theorem decodeCheck_rejects_foreign (h : Bytes → Bytes) (s : List Char)
    (hf : ∃ c ∈ s, c ∉ alphabet) : decodeCheck h s = none := by
  rw [decodeCheck, decode_rejects_foreign s hf]
  rfl

/-- strings too short to hold a checksum are rejected: an accepted string decodes
to at least four bytes -/
theorem decodeCheck_needs_four (h : Bytes → Bytes) (hlen : ∀ x, 4 ≤ (h x).length) (s : List Char)
    (p : Bytes) (hs : decodeCheck h s = some p) : ∃ raw, decode s = some raw ∧ 4 ≤ raw.length := by
  refine ⟨_, decodeCheck_sound h s p hs, ?_⟩
  rw [List.length_append, List.length_take_of_le (hlen p)]
  omega

/-- **decodeCheck ∘ encodeCheck = id** for every payload -/
theorem decodeCheck_encodeCheck (h : Bytes → Bytes) (hlen : ∀ x, 4 ≤ (h x).length) (p : Bytes) :
    decodeCheck h (encodeCheck h p) = some p := by
  apply decodeCheck_complete h hlen
  apply decode_encode
  intro e
  have := congrArg List.length e
  rw [List.length_append, List.length_take_of_le (hlen p)] at this
  cases this

/-- non-vacuity: the hypotheses are satisfiable and the round trip is not trivial -/
example : ∃ h : Bytes → Bytes, (∀ x, 4 ≤ (h x).length) ∧
    decodeCheck h (encodeCheck h [0, 1, 2]) = some [0, 1, 2] :=
  ⟨fun _ => [9, 9, 9, 9], by simp, decodeCheck_encodeCheck _ (by simp) _⟩

end BtcHd.C10
