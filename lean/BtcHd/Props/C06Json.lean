/-
C06 (JSON text clause): "The JSON rendering parses back to the same data."

`PaperWallet.json(data, indent)` is `json.dumps(data, indent=indent)` of CPython. `JsonText.dumps`
(Model/JsonText.lean) is an executable mirror of that printer for values made of dict / list / str /
None, and `JsonText.loads` a parser for JSON texts over the same value space. The theorems here
state the round trip for every value and every indent, with no side condition.
-/
import BtcHd.Lemmas.JsonText

namespace BtcHd.C06
open BtcHd.Wallet BtcHd.JsonText

/-- Reading a printed string literal, followed by anything, gives back exactly the string and the
untouched remainder (all escapes, including `\uXXXX` and surrogate pairs, are undone). -/
theorem unescape_escape (s rest : List Char) :
    parseString ('"' :: (escape s ++ '"' :: rest)) = some (s, rest) :=
  dumpStr_append s rest ▸ parseString_dumpStr s rest

/-- The body of a printed string literal consists of printable ASCII characters only (`' '..'~'`). -/
theorem escape_ascii (s : List Char) : ∀ c ∈ escape s, 0x20 ≤ c.toNat ∧ c.toNat ≤ 0x7e :=
  escape_printable s

/-- The escape of a single character is never empty and never begins with a quote, so the reader can
not mistake the first character of an escape for the end of the string literal. -/
theorem escape_char_nonempty_no_quote (c : Char) :
    ∃ h t, escapeChar c = h :: t ∧ h ≠ '"' :=
  escapeChar_head c

/-- The compact rendering (`indent=None`) is pure printable ASCII: no newline, no control or
non-ASCII character. -/
theorem dumps_ascii_compact (j : Json) :
    ∀ c ∈ dumps none j, 0x20 ≤ c.toNat ∧ c.toNat ≤ 0x7e :=
  allC_dump none (fun _ h => h) (fun _ => .nil) j 0

/-- With any indent the rendering is printable ASCII plus the newline character, and a newline
occurs only if an indent was requested. -/
theorem dumps_ascii (indent : Option Nat) (j : Json) :
    ∀ c ∈ dumps indent j, (0x20 ≤ c.toNat ∧ c.toNat ≤ 0x7e) ∨ (c = '\n' ∧ indent ≠ none) :=
  allC_dump indent (fun _ => .inl)
    (fun _ _ hc => (mem_nlIndent hc).imp_left fun h => h ▸ (by decide : Printable ' ')) j 0

/-- The JSON rendering parses back to the same data: for every value and every indent. -/
theorem loads_dumps (j : Json) (indent : Option Nat) : loads (dumps indent j) = some j := by
  simpa only [List.nil_append, List.append_nil] using
    loads_ws_dumps_ws indent j (w₁ := []) (w₂ := []) (fun _ h => nomatch h) (fun _ h => nomatch h)

/-- The round trip tolerates whitespace (space, LF, CR, TAB) before and after the text, e.g. the
trailing newline of a file. -/
theorem loads_dumps_padded (j : Json) (indent : Option Nat) (w₁ w₂ : List Char)
    (h₁ : ∀ c ∈ w₁, c = ' ' ∨ c = '\n' ∨ c = '\r' ∨ c = '\t')
    (h₂ : ∀ c ∈ w₂, c = ' ' ∨ c = '\n' ∨ c = '\r' ∨ c = '\t') :
    loads (w₁ ++ dumps indent j ++ w₂) = some j := by
  have ws : ∀ c : Char, c = ' ' ∨ c = '\n' ∨ c = '\r' ∨ c = '\t' → isWs c = true := by
    intro c hc
    rcases hc with rfl | rfl | rfl | rfl <;> decide
  rw [List.append_assoc]
  exact loads_ws_dumps_ws indent j (fun c hc => ws c (h₁ c hc)) (fun c hc => ws c (h₂ c hc))

example : loads ([' ', '\n'] ++ dumps (some 2) (.arr [.null, .str ['"']]) ++ ['\r', '\n', '\t']) =
    some (.arr [.null, .str ['"']]) :=
  loads_dumps_padded _ _ _ _ (by decide +kernel) (by decide +kernel)

/-- The parser, started anywhere in a larger text, consumes exactly one printed value and leaves the
remainder untouched (no over-reading), for any sufficient fuel. -/
theorem parseValue_dumps (j : Json) (indent : Option Nat) (rest : List Char) (fuel : Nat)
    (h : (dumps indent j).length ≤ fuel) :
    parseValue fuel (dumps indent j ++ rest) = some (j, rest) :=
  parseValue_dump indent j 0 rest fuel h

example : parseValue 4 (dumps none .null ++ ", null]".toList) = some (.null, ", null]".toList) :=
  parseValue_dumps .null none _ 4 (by decide +kernel)

/-- Different data never render to the same text (for a fixed indent). -/
theorem dumps_injective (indent : Option Nat) (j j' : Json) (h : dumps indent j = dumps indent j') :
    j = j' := by
  have h1 := loads_dumps j indent
  rw [h, loads_dumps j' indent] at h1
  exact (Option.some.inj h1).symm

/-- The indent is presentation only: all renderings of a value parse to the same data. -/
theorem loads_dumps_indent_irrelevant (j : Json) (i i' : Option Nat) :
    loads (dumps i j) = loads (dumps i' j) := by
  rw [loads_dumps, loads_dumps]

/-! ### Conformance with CPython (expected texts pasted from `/venv/bin/python`, `json.dumps`) -/

/-- sample value: `{"path": "m/44'/0'", "rows": [["a\n\"\\", None, "\u00e9\u2028\U0001F600\x7f"], [], {}],
"": {"k": None}}` -/
private def sample : Json :=
  .obj [("path".toList, .str "m/44'/0'".toList),
        ("rows".toList, .arr [
          .arr [.str ['a', '\n', '"', '\\'], .null,
                .str [Char.ofNat 0xe9, Char.ofNat 0x2028, Char.ofNat 0x1f600, Char.ofNat 0x7f]],
          .arr [], .obj []]),
        ([], .obj [("k".toList, .null)])]

private theorem eq_toList_of {l : List Char} {s : String} (h : String.ofList l = s) : l = s.toList := by
  rw [← h, String.toList_ofList]

/-- `json.dumps(sample)` -/
example : dumps none sample =
    "{\"path\": \"m/44'/0'\", \"rows\": [[\"a\\n\\\"\\\\\", null, \"\\u00e9\\u2028\\ud83d\\ude00\\u007f\"], [], {}], \"\": {\"k\": null}}".toList := by
  rw [String.toList_ofList]
  decide +kernel

/-- `json.dumps(sample, indent=4)` -/
example : dumps (some 4) sample =
    "{\n    \"path\": \"m/44'/0'\",\n    \"rows\": [\n        [\n            \"a\\n\\\"\\\\\",\n            null,\n            \"\\u00e9\\u2028\\ud83d\\ude00\\u007f\"\n        ],\n        [],\n        {}\n    ],\n    \"\": {\n        \"k\": null\n    }\n}".toList := by
  rw [String.toList_ofList]
  decide +kernel

/-- `json.dumps(sample, indent=0)` -/
example : dumps (some 0) sample =
    "{\n\"path\": \"m/44'/0'\",\n\"rows\": [\n[\n\"a\\n\\\"\\\\\",\nnull,\n\"\\u00e9\\u2028\\ud83d\\ude00\\u007f\"\n],\n[],\n{}\n],\n\"\": {\n\"k\": null\n}\n}".toList := by
  rw [String.toList_ofList]
  decide +kernel

/-- `json.dumps("a\n\"\\\x7f\u00e9\u2028\U0001F600/\t\r\x08\x0c\x00\x1f ~")`: every kind of escape -/
example : dumps none (.str (['a', '\n', '"', '\\', Char.ofNat 0x7f, Char.ofNat 0xe9, Char.ofNat 0x2028,
      Char.ofNat 0x1f600, '/', '\t', '\r', Char.ofNat 8, Char.ofNat 12, Char.ofNat 0, Char.ofNat 0x1f,
      ' ', '~'])) =
    "\"a\\n\\\"\\\\\\u007f\\u00e9\\u2028\\ud83d\\ude00/\\t\\r\\b\\f\\u0000\\u001f ~\"".toList := by
  rw [String.toList_ofList]
  decide +kernel

/-- the parser really runs: it reads the CPython texts above back, also with other whitespace and with
upper-case hex digits / raw non-ASCII characters / `\/`, which `dumps` never emits -/
example : loads "{\n    \"\": {\n        \"k\": null\n    }\n}\n".toList =
    some (.obj [([], .obj [("k".toList, .null)])]) := by
  rw [String.toList_ofList]
  rfl
example : loads " [ \"\\uD83D\\uDE00\\/\" ,\t\"\u00e9\" , null ] ".toList =
    some (.arr [.str [Char.ofNat 0x1f600, '/'], .str [Char.ofNat 0xe9], .null]) := by
  rw [String.toList_ofList]
  rfl

/-- what is rejected: numbers / `true`, trailing commas, trailing garbage, lone surrogates, raw control
characters in strings, unterminated input -/
example : loads "[1]".toList = none ∧ loads "true".toList = none ∧ loads "[null,]".toList = none ∧
    loads "null x".toList = none ∧ loads "\"\\ud800\"".toList = none ∧
    loads "\"\\ud800\\u0041\"".toList = none ∧ loads "\"\\udc00\"".toList = none ∧
    loads "\"a\nb\"".toList = none ∧ loads "[null".toList = none ∧ loads "{\"a\" null}".toList = none ∧
    loads "{null: null}".toList = none ∧ loads [] = none := by
  repeat rw [String.toList_ofList]
  decide +kernel

end BtcHd.C06
