/-
Translated Python (`BtcHd.Code`, generated from /repo by harness/translate.py) = hand-written model:
`bip39.py` length helpers, `correct_entropy_bits_value`, `mnemonic_from_entropy` (the whole sentence construction of
C04, SHA-256 a parameter on both sides) and `bip85.py` `byte_count_from_word_count`.
-/
import BtcHd.Lemmas.Translated
import BtcHd.Model.Bip39
import BtcHd.Model.Bip85

namespace BtcHd.Translated
open BtcHd

theorem checksumLength_eq : Code.checksum_length = Bip39.checksumLength := by
  funext n
  simp [Code.checksum_length, Bip39.checksumLength]

theorem sentenceLength_eq : Code.mnemonic_sentence_length = Bip39.sentenceLength := by
  funext n
  simp [Code.mnemonic_sentence_length, Bip39.sentenceLength, checksumLength_eq]

theorem byteCount_eq (wc : Nat) :
    Code.byte_count_from_word_count wc = Bip85.byteCountFromWordCount (wc : Int) := by
  unfold Code.byte_count_from_word_count Bip85.byteCountFromWordCount
  simp

theorem correct_bits_eq (n : Nat) :
    Code.correct_entropy_bits_value n = if n ∈ Generated.correctEntropyBits then some () else none :=
  guard_eq _ _

theorem mnemonic_from_entropy_eq (sha256 : Bytes → Bytes) (e : List Char) :
    Code.mnemonic_from_entropy sha256 e = Bip39.mnemonicFromEntropy sha256 e := by
  unfold Code.mnemonic_from_entropy Bip39.mnemonicFromEntropy Bip39.wordsFromEntropy Bip39.indexesFromEntropy
  simp only [correct_bits_eq, checksumLength_eq, Option.map_eq_bind,
    Option.bind_assoc]
  refine Option.bind_congr fun eb _ => ?_
  split <;> rfl

example : Code.checksum_length 256 = 8 := by decide +kernel
example : Code.mnemonic_sentence_length 128 = 12 := by decide +kernel
example : Code.byte_count_from_word_count 24 = some 32 := by decide +kernel
example : Code.byte_count_from_word_count 13 = none := by decide +kernel

end BtcHd.Translated
