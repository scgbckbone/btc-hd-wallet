/-
C13 — derivation is a pure function of root and path.

"The result of any derivation, address, serialisation or BIP85 request depends only on the
root key material, the network and the requested path or parameters, not on which other
requests were made earlier on the same wallet or node objects, in what order, how often, or
concurrently from other threads.  Deriving a concatenated path equals deriving its parts in
sequence, an address generator yields consecutive indexes (or skips ahead by the number sent
to it), and no request alters the root key."

Model: `Model/History.lean` — a state machine of API calls on SHARED wallet / node / generator
objects (`State` = wallet, table of node objects by handle with their `children` counters,
ghost `paths`, live generators).  Concurrency is modelled as arbitrary interleavings of atomic
API calls: a history is any `List Op`, and nothing below restricts which client issued which
call.

The argument: `Inv` says that every entry of the node table IS `derivePath P w.master path` for its
recorded path; it holds initially and is kept by every call.  `pureStep` / `pureRun`
(`Lemmas/History.lean`) answer calls from the ghost data `Ghost` (recorded paths + generator
views) and the root `w.master` ONLY — the type `Ghost` contains no node table — and `step` / `run`
agree with them.  The other sections are consequences.
-/
import BtcHd.Lemmas.History
import BtcHd.Lemmas.ToyHistory

namespace BtcHd.C13
open BtcHd Bip32 Wallet History

variable {Pt : Type}

/-! ### the invariant `Inv` (every node object in the table is the derivation of the master along its recorded
path) holds initially and is kept by every call, hence by every history -/

theorem inv_init (P : Prims Pt) (w : Wallet) : Inv P w (init w) :=
  History.inv_init P w

theorem inv_step {P : Prims Pt} {w : Wallet} {s : State} (hinv : Inv P w s) (op : Op) :
    Inv P w (step P s op).1 :=
  (step_sim hinv op).1

theorem inv_run {P : Prims Pt} {w : Wallet} {s : State} (hinv : Inv P w s) (ops : List Op) :
    Inv P w (run P s ops).1 :=
  (run_sim hinv ops).1

/-- after ANY history on a fresh wallet, every node object in the table is the derivation of the
master node along the index path by which its handle was reached -/
theorem table_is_pure (P : Prims Pt) (w : Wallet) (ops : List Op) {h : Nat} {nd : Node} {c : Nat}
    (hn : (run P (init w) ops).1.nodes[h]? = some (nd, c)) :
    ∃ path, (run P (init w) ops).1.paths[h]? = some path ∧ derivePath P w.master path = some nd :=
  (inv_run (inv_init P w) ops).of_node hn

-- non-vacuity: a reachable state with four node handles and a live generator
example : Inv toyP toyW toyS ∧ toyS.nodes.length = 4 ∧
    toyS.paths = [[], [0], [2 ^ 31 + 1], [0, 7]] ∧
    toyS.gens[0]? = some ⟨1, .p2pkh, true, 4, false⟩ :=
  ⟨toyS_inv, toyS_nodes_length, toyS_paths, toyS_gen⟩

/-! ### every output is a function of (root wallet, recorded paths, generator counters, call) -/

/-- Under the invariant the output of a call is the one computed by `pureStep`, which never
looks at the node table: it re-derives every node from `w.master` along the recorded path of
the handle, and sees a generator only as (path of its node, kind, started, index, dead). -/
theorem step_out_pure {P : Prims Pt} {w : Wallet} {s : State} (hinv : Inv P w s) (op : Op) :
    (step P s op).2 = (pureStep P w (ghost s) op).2 := by
  rw [(step_sim hinv op).2]

theorem step_ghost_pure {P : Prims Pt} {w : Wallet} {s : State} (hinv : Inv P w s) (op : Op) :
    ghost (step P s op).1 = (pureStep P w (ghost s) op).1 := by
  rw [(step_sim hinv op).2]

/-- The outputs of a whole history are those of `pureRun`, which threads only the ghost data
(paths, generator views) and answers every call from the root wallet. -/
theorem history_refines {P : Prims Pt} {w : Wallet} {s : State} (hinv : Inv P w s) (ops : List Op) :
    (run P s ops).2 = (pureRun P w (ghost s) ops).2 := by
  rw [(run_sim hinv ops).2]

theorem history_refines_init (P : Prims Pt) (w : Wallet) (ops : List Op) :
    (run P (init w) ops).2 = (pureRun P w ⟨[[]], []⟩ ops).2 :=
  history_refines (inv_init P w) ops

/-- a `ckd` call returns the derivation of the ROOT along (path of the handle) ++ [index] -/
theorem ckd_out_pure {P : Prims Pt} {w : Wallet} {s : State} (hinv : Inv P w s) {h : Nat}
    {path : List Nat} (hp : s.paths[h]? = some path) (i : Nat) :
    (step P s (.ckd h i)).2 = outOpt .node (derivePath P w.master (path ++ [i])) := by
  rw [step_out_pure hinv]
  simp only [pureStep, ghost_paths, hp]
  cases derivePath P w.master (path ++ [i]) <;> rfl

/-- a `derive_path` call returns the derivation of the ROOT along (path of the handle) ++ indexes -/
theorem derivePath_out_pure {P : Prims Pt} {w : Wallet} {s : State} (hinv : Inv P w s) {h : Nat}
    {path : List Nat} (hp : s.paths[h]? = some path) (is : List Nat) :
    (step P s (.derivePath h is)).2 = outOpt .node (derivePath P w.master (path ++ is)) := by
  rw [step_out_pure hinv]
  simp only [pureStep, ghost_paths, hp]
  cases derivePath P w.master (path ++ is) <;> rfl

/-- `generate_children((a, b))` returns the derivations of the ROOT along path ++ [i], a ≤ i < b -/
theorem genChildren_out_pure {P : Prims Pt} {w : Wallet} {s : State} (hinv : Inv P w s) {h : Nat}
    {path : List Nat} (hp : s.paths[h]? = some path) (a b : Nat) :
    (step P s (.genChildren h a b)).2 =
      outOpt .nodes ((List.range' a (b - a)).mapM fun i => derivePath P w.master (path ++ [i])) := by
  rw [step_out_pure hinv]
  simp only [pureStep, ghost_paths, hp]
  cases (List.range' a (b - a)).mapM fun i => derivePath P w.master (path ++ [i]) <;> rfl

/-- `by_path(str)` returns the derivation of the root along the parsed levels, whatever happened
before on the wallet -/
theorem byPath_out_pure {P : Prims Pt} {w : Wallet} {s : State} (hinv : Inv P w s)
    (str : List Char) : (step P s (.byPath str)).2 = outOpt .node (Wallet.byPath P w str) := by
  rw [step_byPath, hinv.wallet, Wallet.byPath]
  cases Path.parse str with
  | none => rfl
  | some p => dsimp only [Option.bind_some]; cases derivePath P w.master p.levels <;> rfl

/-- an address request on a handle is answered from the node re-derived from the root, the
wallet's network flag and the kind -/
theorem addr_out_pure {P : Prims Pt} {w : Wallet} {s : State} (hinv : Inv P w s) {h : Nat}
    {path : List Nat} (hp : s.paths[h]? = some path) (k : AddrKind) :
    ∃ nd, derivePath P w.master path = some nd ∧
      (step P s (.addr h k)).2 = outOpt .text (addrOf P w.testnet k nd) := by
  obtain ⟨nd, c, _, hd⟩ := hinv.of_path hp
  refine ⟨nd, hd, ?_⟩
  rw [step_out_pure hinv]
  simp only [pureStep, ghost_paths, hp, Option.bind_some, hd]

/-- an extended-keys (serialisation) request on a handle is answered from the node re-derived
from the root and the wallet -/
theorem extKeys_out_pure {P : Prims Pt} {w : Wallet} {s : State} (hinv : Inv P w s) {h : Nat}
    {path : List Nat} (hp : s.paths[h]? = some path) :
    ∃ nd, derivePath P w.master path = some nd ∧
      (step P s (.extKeys h)).2 = outOpt .json (nodeExtendedKeys P w nd) := by
  obtain ⟨nd, c, _, hd⟩ := hinv.of_path hp
  refine ⟨nd, hd, ?_⟩
  rw [step_out_pure hinv]
  simp only [pureStep, ghost_paths, hp, Option.bind_some, hd]

/-- BIP85, report, Wasabi and root-key requests are functions of the wallet and the parameters -/
theorem wallet_requests_pure {P : Prims Pt} {w : Wallet} {s : State} (hinv : Inv P w s) :
    (∀ app param index, (step P s (.bip85 app param index)).2 =
      if w.watchOnly then .err else outOpt .text (bip85Call P w.master app param index)) ∧
    (∀ acct a b, (step P s (.report acct a b)).2 = outOpt .json (generate P w acct a b)) ∧
    (step P s .wasabi).2 = outOpt .json (Wallet.wasabi P w) ∧
    (step P s .rootKey).2 = outOpt .text (rootKeyOut P w) := by
  refine ⟨fun _ _ _ => ?_, fun _ _ _ => ?_, ?_, ?_⟩ <;> rw [step_out_pure hinv] <;> rfl

-- concrete instances on the toy state: handle 3 was reached by `[0, 7]`
example : (step toyP toyS (.ckd 3 5)).2 = outOpt .node (derivePath toyP toyW.master [0, 7, 5]) :=
  ckd_out_pure toyS_inv (h := 3) (path := [0, 7]) (by rw [toyS_paths]; rfl) 5

/-! ### no request alters the root key -/

/-- after any history the node at handle 0 is still the wallet's master node, and the wallet
(master key, network flag, mnemonic, password) is unchanged -/
theorem root_unchanged (P : Prims Pt) (w : Wallet) (ops : List Op) :
    ((run P (init w) ops).1.nodes[0]?).map (·.1) = some w.master ∧
    (run P (init w) ops).1.wallet = w :=
  ⟨(inv_run (inv_init P w) ops).root, (inv_run (inv_init P w) ops).wallet⟩

theorem root_unchanged_from (P : Prims Pt) (s : State) (ops : List Op) (h0 : 0 < s.nodes.length) :
    ((run P s ops).1.nodes[0]?).map (·.1) = (s.nodes[0]?).map (·.1) ∧
    (run P s ops).1.wallet = s.wallet :=
  ⟨(run_extends P s ops).nodes_fst 0 h0, (run_extends P s ops).wallet⟩

/-! ### handles are never re-bound -/

/-- existing entries keep their node fields across a call (only the `children` counter may
grow) -/
theorem table_monotone (P : Prims Pt) {s : State} {h : Nat} {nd : Node} {c : Nat}
    (hn : s.nodes[h]? = some (nd, c)) (op : Op) :
    ((step P s op).1.nodes[h]?).map (·.1) = some nd :=
  map_fst_eq_some.mpr ((step_extends P s op).nodes_stable hn)

theorem table_monotone_run (P : Prims Pt) {s : State} {h : Nat} {nd : Node} {c : Nat}
    (hn : s.nodes[h]? = some (nd, c)) (ops : List Op) :
    ((run P s ops).1.nodes[h]?).map (·.1) = some nd ∧
    (h < s.paths.length → (run P s ops).1.paths[h]? = s.paths[h]?) :=
  ⟨map_fst_eq_some.mpr ((run_extends P s ops).nodes_stable hn), (run_extends P s ops).paths h⟩

example : ((step toyP toyS (.genChildren 1 0 3)).1.nodes[1]?).map (·.1) = (toyS.nodes[1]?).map (·.1) :=
  (step_extends toyP toyS _).nodes_fst 1 (by rw [toyS_nodes_length]; decide)

/-- deriving a concatenated path equals deriving its parts in sequence -/
theorem derive_append (P : Prims Pt) (nd : Node) (a b : List Nat) :
    derivePath P nd (a ++ b) = (derivePath P nd a).bind (derivePath P · b) :=
  Bip32.derivePath_append P nd a b

/-- `by_path(str)` followed by `derive_path(is)` on the returned node gives the same node as one
derivation of the root along (parsed levels ++ is).  (The returned object is the master itself,
handle 0, when the path has no levels, and a new handle otherwise.) -/
theorem byPath_then_derive {P : Prims Pt} {w : Wallet} {s : State} (hinv : Inv P w s)
    {str : List Char} {p : Path.Path} {n : Node} (hp : Path.parse str = some p)
    (hn : derivePath P w.master p.levels = some n) (is : List Nat) :
    (step P s (.byPath str)).2 = .node n ∧
    (step P (step P s (.byPath str)).1
        (.derivePath (if p.levels = [] then 0 else s.nodes.length) is)).2 =
      outOpt .node (derivePath P w.master (p.levels ++ is)) := by
  refine ⟨by rw [byPath_out_pure hinv, Wallet.byPath, hp, Option.bind_some, hn]; rfl,
    derivePath_out_pure (inv_step hinv _) ?_ is⟩
  -- the recorded paths after the call are those of `pureStep`
  rw [← ghost_paths, step_ghost_pure hinv]
  simp only [pureStep, hp, hn]
  split
  · next hl => rw [hl]; exact hinv.rootPath
  · rw [hinv.len]; exact List.getElem?_concat_length

example : (step toyP (step toyP toyS (.byPath ['m', '/', '0'])).1 (.derivePath 4 [7])).2 =
    outOpt .node (derivePath toyP toyW.master ([0] ++ [7])) := by
  obtain ⟨n, hn⟩ := Option.isSome_iff_exists.mp
    (show (derivePath toyP toyW.master [0]).isSome = true by decide +kernel)
  have := (byPath_then_derive toyS_inv (str := ['m', '/', '0']) (p := ⟨[0], true⟩)
    (by decide +kernel) hn [7]).2
  simpa [toyS_nodes_length] using this

/-! ### an address generator yields consecutive indexes, or skips ahead by the number sent to it -/

/-- `wallet.address_generator(node, fn)` on an existing handle creates a fresh generator
(not started, index 0) under the next generator handle -/
theorem newGen_spec (P : Prims Pt) {s : State} {h : Nat} (hh : h < s.nodes.length) (k : AddrKind) :
    (step P s (.newGen h k)).2 = .handle s.gens.length ∧
    (step P s (.newGen h k)).1.gens[s.gens.length]? = some ⟨h, k, false, 0, false⟩ ∧
    (step P s (.newGen h k)).1.nodes = s.nodes := by
  rw [step, if_pos hh]
  exact ⟨rfl, List.getElem?_concat_length, rfl⟩

/-- `next(gen)` (`step.advance … none`) / `gen.send(k)` (`step.advance … (some k)`) on the shared
objects behaves exactly like the generator on its own (`genStep`) run against the node it walks:
same output, and the generator's new state -/
theorem advance_spec (P : Prims Pt) {s : State} {g : Nat} {gen : Gen} {nd : Node} {cnt : Nat}
    (hg : s.gens[g]? = some gen) (hn : s.nodes[gen.node]? = some (nd, cnt)) (sent : Option Nat) :
    (step.advance P s g sent).2 = (genStep P s.wallet.testnet nd gen sent).2 ∧
    (step.advance P s g sent).1.gens[g]? = some (genStep P s.wallet.testnet nd gen sent).1 := by
  obtain ⟨k, hk⟩ := advance_of_gen hg hn sent
  rw [hk]
  exact ⟨rfl, List.getElem?_set_self (List.getElem?_eq_some_iff.mp hg).1⟩

/-- `next(gen)` on a live generator: it derives index 0 if not yet started, else `index + 1`,
returns (path string, address) of that child, and moves to that index -/
theorem next_spec (P : Prims Pt) {s : State} {g h : Nat} {kind : AddrKind} {started : Bool}
    {index : Nat} {nd c : Node} {cnt : Nat} {a : List Char}
    (hg : s.gens[g]? = some ⟨h, kind, started, index, false⟩)
    (hn : s.nodes[h]? = some (nd, cnt))
    (hc : ckd P nd (if started then index + 1 else 0) = some c)
    (ha : addrOf P s.wallet.testnet kind c = some a) :
    (step P s (.next g)).2 = .pair (nodeRepr c) a ∧
    (step P s (.next g)).1.gens[g]? =
      some ⟨h, kind, true, if started then index + 1 else 0, false⟩ := by
  have := advance_spec P hg hn none
  rwa [genStep_eq ⟨h, kind, started, index, false⟩ none rfl (.inr rfl) hc ha] at this

/-- `gen.send(j)` on a started live generator: it skips ahead by `j` (by 1 when `j = 0`, Python's
`adder or 1`), returns (path string, address) of that child, and moves to that index -/
theorem send_spec (P : Prims Pt) {s : State} {g h : Nat} {kind : AddrKind} {index j : Nat}
    {nd c : Node} {cnt : Nat} {a : List Char}
    (hg : s.gens[g]? = some ⟨h, kind, true, index, false⟩)
    (hn : s.nodes[h]? = some (nd, cnt))
    (hc : ckd P nd (index + if j = 0 then 1 else j) = some c)
    (ha : addrOf P s.wallet.testnet kind c = some a) :
    (step P s (.send g j)).2 = .pair (nodeRepr c) a ∧
    (step P s (.send g j)).1.gens[g]? =
      some ⟨h, kind, true, index + if j = 0 then 1 else j, false⟩ := by
  have := advance_spec P hg hn (some j)
  rwa [genStep_eq ⟨h, kind, true, index, false⟩ (some j) rfl (.inl rfl) hc ha] at this

/-- `gen.send(j)` on a generator that was never started raises (TypeError) and changes nothing -/
theorem send_not_started (P : Prims Pt) {s : State} {g h : Nat} {kind : AddrKind} {index : Nat}
    {dead : Bool} (hg : s.gens[g]? = some ⟨h, kind, false, index, dead⟩) (j : Nat) :
    step P s (.send g j) = (s, .err) := by
  simp [step, advance_eq, hg]

/-- a generator killed by an exception stays dead: every later request raises (StopIteration)
and changes nothing -/
theorem dead_generator (P : Prims Pt) {s : State} {g h : Nat} {kind : AddrKind} {started : Bool}
    {index : Nat} (hg : s.gens[g]? = some ⟨h, kind, started, index, true⟩) :
    step P s (.next g) = (s, .err) ∧ ∀ j, step P s (.send g j) = (s, .err) := by
  simp [step, advance_eq, hg]

/-- a call that is not `next(g)` / `g.send(_)` leaves generator `g` untouched (`newGen` appends
a new generator, so `g` must be an existing handle) -/
theorem gens_untouched (P : Prims Pt) {s : State} {g : Nat} {op : Op}
    (hop : reqOf g op = none) (hg : g < s.gens.length) :
    (step P s op).1.gens[g]? = s.gens[g]? :=
  (step_frame P s op).2 g hg hop

/-- Whatever else happens on the shared objects in between (derivations on the same node, other
generators, ...), the outputs of the calls addressed to generator `g` are exactly those of the
generator run on its own (`genRun`) against the node it walks. -/
theorem generator_trace (P : Prims Pt) {s : State} {g : Nat} {gen : Gen} {nd : Node} {cnt : Nat}
    (hg : s.gens[g]? = some gen) (hn : s.nodes[gen.node]? = some (nd, cnt)) (ops : List Op) :
    outsFor g ops (run P s ops).2 =
      genRun P s.wallet.testnet nd gen (ops.filterMap (reqOf g)) := by
  induction ops generalizing s gen cnt with
  | nil => rfl
  | cons op ops ih =>
    obtain ⟨cnt', hn'⟩ := (step_extends P s op).nodes_stable hn
    rw [run_cons, outsFor, ← (step_extends P s op).wallet]
    cases hr : reqOf g op with
    | none =>
      rw [List.filterMap_cons_none hr, Option.isSome_none, if_neg Bool.false_ne_true]
      exact ih (((step_frame P s op).2 g (List.getElem?_eq_some_iff.mp hg).1 hr).trans hg) hn'
    | some r =>
      obtain ⟨k, hk⟩ := advance_of_gen hg hn r
      rw [step_req hr, hk] at hn' ⊢
      rw [List.filterMap_cons_some hr, Option.isSome_some, if_pos rfl, genRun]
      exact congrArg _ (ih (List.getElem?_set_self (List.getElem?_eq_some_iff.mp hg).1)
        (by rw [genStep_node]; exact hn'))

/-- A fresh generator on node `nd`, in any history in which none of its calls fails: its first
call is a `next`, and its i-th output is (path string, address) of `ckd nd idx_i` with
`idx_0 = 0` and `idx_{i+1} = idx_i + 1` for `next` / `send(0)`, `idx_i + j` for `send(j)`, `j ≥ 1`
— whatever other calls are interleaved. -/
theorem generator_indexes (P : Prims Pt) {s : State} {g h : Nat} {k : AddrKind} {nd : Node}
    {cnt : Nat} (hg : s.gens[g]? = some ⟨h, k, false, 0, false⟩) (hn : s.nodes[h]? = some (nd, cnt))
    (ops : List Op) (hok : ∀ o ∈ outsFor g ops (run P s ops).2, o ≠ .err) :
    (∀ j, (ops.filterMap (reqOf g)).head? ≠ some (some j)) ∧
    List.Forall₂ (IsChildOut P s.wallet.testnet nd k) (freshIdxs (ops.filterMap (reqOf g)))
      (outsFor g ops (run P s ops).2) := by
  rw [generator_trace P hg hn ops] at hok ⊢
  exact genRun_fresh _ hok

/-- the same for the generator created by `address_generator(node h, kind k)`: the history is
the creation followed by any calls -/
theorem new_generator_indexes (P : Prims Pt) {s : State} {h : Nat} {k : AddrKind} {nd : Node}
    {cnt : Nat} (hn : s.nodes[h]? = some (nd, cnt)) (ops : List Op)
    (hok : ∀ o ∈ outsFor s.gens.length ops (run P (step P s (.newGen h k)).1 ops).2, o ≠ .err) :
    List.Forall₂ (IsChildOut P s.wallet.testnet nd k)
      (freshIdxs (ops.filterMap (reqOf s.gens.length)))
      (outsFor s.gens.length ops (run P (step P s (.newGen h k)).1 ops).2) := by
  have hh : h < s.nodes.length := (List.getElem?_eq_some_iff.mp hn).1
  obtain ⟨_, h2, h3⟩ := newGen_spec P hh k
  have := (generator_indexes P h2 (by rw [h3]; exact hn) ops hok).2
  rw [(step_extends P s (.newGen h k)).wallet] at this
  exact this

/-- consecutive indexes: if the calls addressed to a fresh generator are `n` times `next` and none
fails, the outputs are the children at indexes 0, 1, …, n-1 in order -/
theorem generator_consecutive (P : Prims Pt) {s : State} {g h : Nat} {k : AddrKind} {nd : Node}
    {cnt : Nat} (hg : s.gens[g]? = some ⟨h, k, false, 0, false⟩) (hn : s.nodes[h]? = some (nd, cnt))
    (ops : List Op) {n : Nat} (hreq : ops.filterMap (reqOf g) = List.replicate n none)
    (hok : ∀ o ∈ outsFor g ops (run P s ops).2, o ≠ .err) :
    List.Forall₂ (IsChildOut P s.wallet.testnet nd k) (List.range n)
      (outsFor g ops (run P s ops).2) := by
  have := (generator_indexes P hg hn ops hok).2
  rw [hreq, freshIdxs_next] at this
  exact this

/-- skipping ahead: the indexes for the request list `[next, send 3, next, send 0]` are 0, 3, 4, 5 -/
example : freshIdxs [none, some 3, none, some 0] = [0, 3, 4, 5] := by decide

-- non-vacuity of `new_generator_indexes`: a new generator on handle 1 of the toy state, three
-- requests (`next`, `next`, `send 3`) interleaved with other calls, none fails: indexes 0, 1, 4
example : ∃ nd, List.Forall₂ (IsChildOut toyP toyS.wallet.testnet nd .p2wpkh) [0, 1, 4]
    (outsFor 1 toyOps2 (run toyP (step toyP toyS (.newGen 1 .p2wpkh)).1 toyOps2).2) := by
  obtain ⟨cnt, hn⟩ := toyS_node1
  have := new_generator_indexes toyP (k := .p2wpkh) hn toyOps2
    (by rw [toyS_gens_length]; exact ne_err_of_all toy_gen_ok)
  rw [toyS_gens_length] at this
  exact ⟨_, this⟩

-- non-vacuity of `next_spec` / `send_spec`: the live toy generator (handle 0, walking handle 1,
-- started, index 4) answers, and its state moves to index 5 resp. 4 + 2
example : ∃ c a, (step toyP toyS (.next 0)).2 = .pair (nodeRepr c) a ∧
    (step toyP toyS (.next 0)).1.gens[0]? = some ⟨1, .p2pkh, true, 5, false⟩ := by
  obtain ⟨cnt, hn⟩ := toyS_node1
  obtain ⟨c, a, hc, ha⟩ := toy_child 5 (Or.inl rfl)
  exact ⟨c, a, next_spec toyP toyS_gen hn hc ha⟩

example : ∃ c a, (step toyP toyS (.send 0 2)).2 = .pair (nodeRepr c) a ∧
    (step toyP toyS (.send 0 2)).1.gens[0]? = some ⟨1, .p2pkh, true, 6, false⟩ := by
  obtain ⟨cnt, hn⟩ := toyS_node1
  obtain ⟨c, a, hc, ha⟩ := toy_child 6 (Or.inr rfl)
  exact ⟨c, a, send_spec toyP toyS_gen hn hc ha⟩

/-! ### interleaving: answers do not depend on what ran in between -/

/-- Read-only and derivation requests (everything except generator calls; node arguments must
be existing handles): the output does not depend on whether another call `o'` — ANY call, by any
client — ran before it. -/
theorem out_independent_of_other_ops {P : Prims Pt} {w : Wallet} {s : State} (hinv : Inv P w s)
    {o : Op} (ho : Stateless s o) (o' : Op) :
    (step P (step P s o').1 o).2 = (step P s o).2 :=
  out_independent_ext hinv (inv_step hinv o') (step_extends P s o') ho

theorem out_independent_of_history {P : Prims Pt} {w : Wallet} {s : State} (hinv : Inv P w s)
    {o : Op} (ho : Stateless s o) (ops : List Op) :
    (step P (run P s ops).1 o).2 = (step P s o).2 :=
  out_independent_ext hinv (inv_run hinv ops) (run_extends P s ops) ho

/-- how often: repeating a request gives the same answer again -/
theorem repeat_same_answer {P : Prims Pt} {w : Wallet} {s : State} (hinv : Inv P w s)
    {o : Op} (ho : Stateless s o) : (step P (step P s o).1 o).2 = (step P s o).2 :=
  out_independent_of_other_ops hinv ho o

theorem each_call_own_answer {P : Prims Pt} {w : Wallet} {s : State} (hinv : Inv P w s)
    (ops : List Op) (hall : ∀ o ∈ ops, Stateless s o) :
    (run P s ops).2 = ops.map (fun o => (step P s o).2) := by
  induction ops generalizing s with
  | nil => rfl
  | cons op ops ih =>
    rw [List.forall_mem_cons] at hall
    have he := step_extends P s op
    have hinv' := inv_step hinv op
    rw [run_cons, List.map_cons, ih hinv' fun o ho => (hall.2 o ho).mono he]
    exact congrArg _ (List.map_congr_left fun o ho => out_independent_ext hinv hinv' he (hall.2 o ho))

/-- in what order: reordering (any interleaving of) such requests reorders the answers the same
way; each request keeps its answer -/
theorem order_independent {P : Prims Pt} {w : Wallet} {s : State} (hinv : Inv P w s)
    {ops ops' : List Op} (hperm : ops.Perm ops') (hall : ∀ o ∈ ops, Stateless s o) :
    (run P s ops').2 = ops'.map (fun o => (step P s o).2) ∧
    ((run P s ops).2).Perm (run P s ops').2 := by
  have hall' : ∀ o ∈ ops', Stateless s o := fun o ho => hall o (hperm.mem_iff.mpr ho)
  rw [each_call_own_answer hinv ops hall, each_call_own_answer hinv ops' hall']
  exact ⟨rfl, hperm.map _⟩

/-- a request to generator `g` gets the same answer whatever calls NOT addressed to `g` ran
before it (derivations on the node it walks, other generators, ...) -/
theorem generator_out_independent {P : Prims Pt} {w : Wallet} {s : State} (hinv : Inv P w s)
    {g : Nat} (hg : g < s.gens.length) (ops : List Op) (hno : ∀ op ∈ ops, reqOf g op = none) :
    (step P (run P s ops).1 (.next g)).2 = (step P s (.next g)).2 ∧
    ∀ j, (step P (run P s ops).1 (.send g j)).2 = (step P s (.send g j)).2 := by
  have hg' := run_gens_untouched P ops hno hg
  exact ⟨gen_out_independent_ext hinv (run_extends P s ops) hg hg' none,
    fun j => gen_out_independent_ext hinv (run_extends P s ops) hg hg' (some j)⟩

/-- a handle-creating call binds the new handle to a node that depends only on (root, path):
after `ckd h i` succeeds with child `c`, `c` is the derivation of the root along the path of `h`
extended by `i`, and the new handle `s.nodes.length` holds `c` with that path -/
theorem ckd_creates_pure {P : Prims Pt} {w : Wallet} {s : State} (hinv : Inv P w s) {h i : Nat}
    {path : List Nat} {c : Node} (hp : s.paths[h]? = some path)
    (hout : (step P s (.ckd h i)).2 = .node c) :
    derivePath P w.master (path ++ [i]) = some c ∧
    ((step P s (.ckd h i)).1.nodes[s.nodes.length]?).map (·.1) = some c ∧
    (step P s (.ckd h i)).1.paths[s.nodes.length]? = some (path ++ [i]) := by
  have hd : derivePath P w.master (path ++ [i]) = some c := by
    rw [ckd_out_pure hinv hp] at hout
    cases hx : derivePath P w.master (path ++ [i]) <;> rw [hx] at hout <;> cases hout
    rfl
  -- the recorded paths after the call are those of `pureStep`; the invariant gives the node
  have hp' : (step P s (.ckd h i)).1.paths[s.nodes.length]? = some (path ++ [i]) := by
    rw [← ghost_paths, step_ghost_pure hinv]
    simp only [pureStep, ghost_paths, hp, hd, hinv.len]
    exact List.getElem?_concat_length
  obtain ⟨nd, cnt, hn, hnd⟩ := (inv_step hinv (.ckd h i)).of_path hp'
  exact ⟨hd, by rw [hn, ← Option.some.inj (hnd.symm.trans hd)]; rfl, hp'⟩

-- non-vacuity: on the toy state, with handles 0..3 in use
example : Stateless toyS (.addr 3 .p2wpkh) ∧ Stateless toyS (.ckd 1 9) ∧ Stateless toyS .wasabi :=
  ⟨by show 3 < toyS.nodes.length; rw [toyS_nodes_length]; decide,
   by show 1 < toyS.nodes.length; rw [toyS_nodes_length]; decide, trivial⟩

example : (step toyP (step toyP toyS (.ckd 1 9)).1 (.addr 3 .p2wpkh)).2 =
    (step toyP toyS (.addr 3 .p2wpkh)).2 :=
  out_independent_of_other_ops toyS_inv
    (by show 3 < toyS.nodes.length; rw [toyS_nodes_length]; decide) _

end BtcHd.C13
