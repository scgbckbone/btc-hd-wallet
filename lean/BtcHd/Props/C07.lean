/-
C07 — Extended keys round-trip through serialisation.

"Serialising any node (depth 0-255, any child number, parent fingerprint, chain code and
key) under any of the twelve x/y/z/t/u/v pub/prv version prefixes and parsing the result
back from a string, bytes or a stream yields an equal node that re-serialises to the
identical 111-character string; the version prefix alone determines key type, network and
BIP flavour, and a wallet cannot be built from an unknown version.  A serialised extended
public key contains only the compressed public key and never the private scalar, and a
master key is serialised with zero depth, fingerprint and child number."

Property theorems only.  Definitions (`Node.WF`, `BIP32valid`, `neuter`, `layout`) and
helper lemmas are in `Lemmas/XKey.lean`, the numeric Base58 facts in
`Lemmas/Base58.lean`, the curve hypotheses in `Lemmas/CurveLaws.lean`.
The model functions are those of `Model/Bip32.lean` (`_serialize`, `_parse`, `parse`,
`__eq__`, …), `Model/Path.lean` (`Version`) and `Model/Wallet.lean` (`from_extended_key`).
Parsing from `bytes` and from a `BytesIO` stream is the same model function `parseBytes`;
parsing from a `str` is `parseStr`.
-/
import BtcHd.Lemmas.XKey
import BtcHd.Lemmas.ToyNodes

namespace BtcHd.C07
open BtcHd Bip32 XKey Keys BeFixed Path

variable {Pt : Type}

/-! ### fixed-width big-endian integers (re-exports of `BeFixed`, for the property's own list) -/

/-- `n.to_bytes(len, 'big')` has `len` bytes -/
theorem beFixed_length (len n : Nat) : (beFixed len n).length = len :=
  BeFixed.beFixed_length len n

/-- `int.from_bytes(n.to_bytes(len))` is `n` when `n` fits in `len` bytes -/
theorem beToNat_beFixed {len n : Nat} (h : n < 256 ^ len) : beToNat (beFixed len n) = n :=
  BeFixed.beToNat_beFixed h

/-- `int.from_bytes(bs).to_bytes(len(bs))` is `bs` -/
theorem beFixed_beToNat {len : Nat} {bs : Bytes} (h : bs.length = len) :
    beFixed len (beToNat bs) = bs :=
  BeFixed.beFixed_beToNat h

/-! ### serialisation succeeds and has 78 bytes -/

theorem serialize_length_private {P : Prims Pt} {nd : Node} (hC : CurveLaws P.curve)
    (hwf : nd.WF P) (hprv : nd.isPrv = true) (version : Option Nat)
    (hv : version.getD (prvVersion nd) < 2 ^ 32) :
    ∃ ser, serializePrivate P nd version = some ser ∧ ser.length = 78 :=
  ⟨_, serializePrivate_eq_some.mpr ⟨hprv, _, prvKey_wf (Nat.le_of_lt hC.n_lt) hwf hprv,
      serializeWith_eq _ hwf.depth_lt hwf.index_lt hv⟩,
    layout_length _ hwf.chain_len hwf.fp_len (prvKeyField_length _)⟩

theorem serialize_length_public {P : Prims Pt} {nd : Node} (hC : CurveLaws P.curve)
    (hwf : nd.WF P) (version : Option Nat) (hv : version.getD (pubVersion nd) < 2 ^ 32) :
    ∃ ser, serializePublic P nd version = some ser ∧ ser.length = 78 := by
  obtain ⟨K, hK, hl, _⟩ := pubKey_wf hC hwf
  exact ⟨_, serializePublic_eq_some.mpr ⟨K, hK, serializeWith_eq _ hwf.depth_lt hwf.index_lt hv⟩,
    layout_length _ hwf.chain_len hwf.fp_len hl⟩

/-- the default versions always fit in four bytes, so `version = None` never overflows -/
theorem default_version_fits (nd : Node) : prvVersion nd < 2 ^ 32 ∧ pubVersion nd < 2 ^ 32 :=
  ⟨prvVersion_lt nd, pubVersion_lt nd⟩

/-! ### parse ∘ serialise, and serialise ∘ parse ∘ serialise

Each proof names the key field that was written (`00 ‖ ser256(k)` resp. the compressed public
key), replaces the parsed bytes by `parsedOf` (`XKey.parseBytes_serializeWith`) and reads the
claim off the lemmas about `parsedOf`. -/

/-- **private round trip (bytes / stream)**: parsing the serialisation of a well-formed,
BIP32-valid private node gives a node equal (`__eq__`) to the original, carrying the version
that was written -/
theorem parse_serialize_prv {P : Prims Pt} {nd : Node} (hC : CurveLaws P.curve)
    (hwf : nd.WF P) (hvalid : BIP32valid nd) (version : Option Nat) (ser : Bytes)
    (hs : serializePrivate P nd version = some ser) :
    nodeEq (parseBytes true nd.testnet ser) nd = true ∧
      (parseBytes true nd.testnet ser).parsedVersion = some (version.getD (prvVersion nd)) := by
  obtain ⟨hprv, k, hk, hser⟩ := serializePrivate_eq_some.mp hs
  rw [parseBytes_serializeWith true _ hwf.chain_len hwf.fp_len (prvKeyField_length k) hser]
  exact ⟨nodeEq_parsedOf _ hwf.fp_len hvalid hprv (beToNat_prvKeyField hk),
    rfl⟩

/-- **private re-serialisation**: serialising the parsed node again under the same version
argument reproduces the identical 78 bytes; the parsed node is again well-formed and valid -/
theorem reserialize_prv {P : Prims Pt} {nd : Node} (hC : CurveLaws P.curve)
    (hwf : nd.WF P) (hvalid : BIP32valid nd) (version : Option Nat) (ser : Bytes)
    (hs : serializePrivate P nd version = some ser) :
    serializePrivate P (parseBytes true nd.testnet ser) version = some ser ∧
      (parseBytes true nd.testnet ser).WF P ∧ BIP32valid (parseBytes true nd.testnet ser) := by
  obtain ⟨hprv, k, hk, hser⟩ := serializePrivate_eq_some.mp hs
  obtain ⟨h1, h2⟩ := prvKey_range hk
  rw [parseBytes_serializeWith true _ hwf.chain_len hwf.fp_len (prvKeyField_length k) hser]
  exact ⟨serializePrivate_eq_some.mpr ⟨rfl, k,
      prvKey_of_key h1 h2 (Nat.le_of_lt hC.n_lt) (.inr rfl),
      (serializeWith_parsedOf _ _ _ _ _ _ hwf.fp_len hvalid).trans hser⟩,
    WF_parsedOf hwf _ _ _ (fun _ => ⟨k, h1, h2, .inr rfl⟩) nofun,
    BIP32valid_parsedOf _ _ _ _ hwf.fp_len hvalid⟩

/-- **public round trip (bytes / stream)**: parsing the public serialisation of a well-formed,
BIP32-valid public node gives a node equal to the original, carrying the version written -/
theorem parse_serialize_pub {P : Prims Pt} {nd : Node} (hC : CurveLaws P.curve)
    (hwf : nd.WF P) (hvalid : BIP32valid nd) (hpub : nd.isPrv = false) (version : Option Nat)
    (ser : Bytes) (hs : serializePublic P nd version = some ser) :
    nodeEq (parseBytes false nd.testnet ser) nd = true ∧
      (parseBytes false nd.testnet ser).parsedVersion = some (version.getD (pubVersion nd)) := by
  obtain ⟨K, hK, hl, _, hkey⟩ := pubKey_wf hC hwf
  rw [serializePublic, hK] at hs
  rw [parseBytes_serializeWith false _ hwf.chain_len hwf.fp_len hl hs]
  exact ⟨nodeEq_parsedOf _ hwf.fp_len hvalid hpub (congrArg beToNat (hkey hpub)), rfl⟩

/-- **public form of any node**: parsing the public serialisation of a well-formed, BIP32-valid
node (private or public) gives a node equal to its neutered (public-view) node -/
theorem parse_serialize_pub_neuter {P : Prims Pt} {nd : Node} (hC : CurveLaws P.curve)
    (hwf : nd.WF P) (hvalid : BIP32valid nd) (version : Option Nat)
    (ser : Bytes) (hs : serializePublic P nd version = some ser) :
    ∃ nn, neuter P nd = some nn ∧ nodeEq (parseBytes false nd.testnet ser) nn = true := by
  obtain ⟨K, hK, hl, _⟩ := pubKey_wf hC hwf
  rw [serializePublic, hK] at hs
  rw [parseBytes_serializeWith false _ hwf.chain_len hwf.fp_len hl hs]
  exact ⟨_, neuter_eq_some hK,
    nodeEq_parsedOf (nd := { nd with isPrv := false, key := P.curve.sec true K }) _ hwf.fp_len
      hvalid rfl rfl⟩

/-- **public re-serialisation**: for any well-formed, BIP32-valid node (private or public),
the node parsed from its public serialisation re-serialises to the identical 78 bytes and is
again well-formed and valid -/
theorem reserialize_pub {P : Prims Pt} {nd : Node} (hC : CurveLaws P.curve)
    (hwf : nd.WF P) (hvalid : BIP32valid nd) (version : Option Nat) (ser : Bytes)
    (hs : serializePublic P nd version = some ser) :
    serializePublic P (parseBytes false nd.testnet ser) version = some ser ∧
      (parseBytes false nd.testnet ser).WF P ∧ BIP32valid (parseBytes false nd.testnet ser) := by
  obtain ⟨K, hK, hl, hKinf, _⟩ := pubKey_wf hC hwf
  rw [serializePublic, hK] at hs
  rw [parseBytes_serializeWith false _ hwf.chain_len hwf.fp_len hl hs]
  have hparse := hC.parse_sec true K hKinf
  exact ⟨serializePublic_eq_some.mpr ⟨K, (pubKey_of_pub rfl).trans hparse,
      (serializeWith_parsedOf _ _ _ _ _ _ hwf.fp_len hvalid).trans hs⟩,
    WF_parsedOf hwf _ _ _ nofun (fun _ => ⟨hl, K, hparse⟩),
    BIP32valid_parsedOf _ _ _ _ hwf.fp_len hvalid⟩

/-- **exact condition for the private round trip**: without assuming `BIP32valid`, the parsed
node equals the original iff a master-shaped original (depth 0, index 0, no parent) has the
all-zero fingerprint — the only header `_serialize` rewrites -/
theorem parse_serialize_prv_iff {P : Prims Pt} {nd : Node} (hC : CurveLaws P.curve)
    (hwf : nd.WF P) (version : Option Nat) (ser : Bytes)
    (hs : serializePrivate P nd version = some ser) :
    nodeEq (parseBytes true nd.testnet ser) nd = true ↔
      (isMaster nd = true → parentFingerprint nd = [0, 0, 0, 0]) := by
  obtain ⟨hprv, k, hk, hser⟩ := serializePrivate_eq_some.mp hs
  rw [parseBytes_serializeWith true _ hwf.chain_len hwf.fp_len (prvKeyField_length k) hser]
  exact nodeEq_parsedOf_iff _ hwf.fp_len hprv (beToNat_prvKeyField hk)

/-- **string form**: parsing the Base58Check string of any payload is parsing the payload
(so the string, bytes and stream input forms agree) -/
theorem parseStr_encodeCheck (P : Prims Pt) (hlen : ∀ x, 4 ≤ (P.hash256 x).length)
    (isPrv t : Bool) (ser : Bytes) :
    parseStr P isPrv t (Base58.encodeCheck P.hash256 ser) = some (parseBytes isPrv t ser) := by
  unfold parseStr
  rw [C10.decodeCheck_encodeCheck _ hlen]
  rfl

/-- all twelve versions lie in the numeric window that forces 111 Base58 characters -/
private theorem versions_in_window : ∀ v ∈ allVersions, 2 ^ 24 ≤ v ∧ v ≤ 79029636 := by decide

/-- **111 characters**: under each of the twelve versions, every 78-byte payload starting with
the version has a 111-character Base58Check string -/
theorem xkey_length_111 (h : Bytes → Bytes) (hlen : ∀ x, 4 ≤ (h x).length) (v : Nat)
    (hv : v ∈ allVersions) (payload : Bytes) (hp : payload.length = 78)
    (hpre : payload.take 4 = beFixed 4 v) : (Base58.encodeCheck h payload).length = 111 :=
  Base58.encodeCheck_length_111 h hlen payload hp v hpre (versions_in_window v hv).1
    (versions_in_window v hv).2

/-- the default versions (`version = None`) are among the twelve -/
theorem default_versions_valid (nd : Node) :
    prvVersion nd ∈ allVersions ∧ pubVersion nd ∈ allVersions := by
  unfold prvVersion pubVersion
  cases nd.testnet <;> decide

/-- **extended private key, end to end**: the xprv string of a well-formed, BIP32-valid node
parses (as `str`) to an equal node carrying the version written, which re-serialises to the
identical string; under any of the twelve versions (or the default) it has 111 characters -/
theorem xprv_roundtrip {P : Prims Pt} {nd : Node} (hC : CurveLaws P.curve)
    (hlen : ∀ x, 4 ≤ (P.hash256 x).length) (hwf : nd.WF P) (hvalid : BIP32valid nd)
    (version : Option Nat) (s : List Char) (hs : extendedPrivateKey P nd version = some s) :
    ∃ nd', parseStr P true nd.testnet s = some nd' ∧ nodeEq nd' nd = true ∧
      nd'.parsedVersion = some (version.getD (prvVersion nd)) ∧
      extendedPrivateKey P nd' version = some s ∧
      (version.getD (prvVersion nd) ∈ allVersions → s.length = 111) := by
  obtain ⟨ser, hser, rfl⟩ := Option.map_eq_some_iff.mp hs
  obtain ⟨h1, h2⟩ := parse_serialize_prv hC hwf hvalid version ser hser
  refine ⟨_, parseStr_encodeCheck P hlen true nd.testnet ser, h1, h2,
    by rw [extendedPrivateKey, (reserialize_prv hC hwf hvalid version ser hser).1]; rfl, fun hmem => ?_⟩
  obtain ⟨_, k, _, hk⟩ := serializePrivate_eq_some.mp hser
  rw [serializeWith_layout hk]
  exact xkey_length_111 _ hlen _ hmem _
    (layout_length _ hwf.chain_len hwf.fp_len (prvKeyField_length k)) (layout_take4 _ _ _)

/-- **extended public key, end to end**: the xpub string of a well-formed, BIP32-valid node
(private or public) parses to a node equal to its public view — to the node itself when it is
public — which re-serialises to the identical string; under any of the twelve versions (or the
default) it has 111 characters -/
theorem xpub_roundtrip {P : Prims Pt} {nd : Node} (hC : CurveLaws P.curve)
    (hlen : ∀ x, 4 ≤ (P.hash256 x).length) (hwf : nd.WF P) (hvalid : BIP32valid nd)
    (version : Option Nat) (s : List Char) (hs : extendedPublicKey P nd version = some s) :
    ∃ nd', parseStr P false nd.testnet s = some nd' ∧
      (∃ nn, neuter P nd = some nn ∧ nodeEq nd' nn = true) ∧
      (nd.isPrv = false → nodeEq nd' nd = true) ∧
      nd'.parsedVersion = some (version.getD (pubVersion nd)) ∧
      extendedPublicKey P nd' version = some s ∧
      (version.getD (pubVersion nd) ∈ allVersions → s.length = 111) := by
  obtain ⟨ser, hser, rfl⟩ := Option.map_eq_some_iff.mp hs
  obtain ⟨K, hK, hl, _⟩ := pubKey_wf hC hwf
  have hw := hser
  rw [serializePublic, hK] at hw
  refine ⟨_, parseStr_encodeCheck P hlen false nd.testnet ser,
    parse_serialize_pub_neuter hC hwf hvalid version ser hser,
    fun hpub => (parse_serialize_pub hC hwf hvalid hpub version ser hser).1, ?_,
    by rw [extendedPublicKey, (reserialize_pub hC hwf hvalid version ser hser).1]; rfl, fun hmem => ?_⟩
  · rw [parseBytes_serializeWith false _ hwf.chain_len hwf.fp_len hl hw]
    rfl
  · rw [serializeWith_layout hw]
    exact xkey_length_111 _ hlen _ hmem _ (layout_length _ hwf.chain_len hwf.fp_len hl)
      (layout_take4 _ _ _)

/-- the version constants extracted from the source are the SLIP-132 ones
(x/y/z pub/prv for mainnet, t/u/v pub/prv for testnet) -/
theorem generated_versions_are_slip132 :
    Generated.versionsMain =
        [(1, 0, 0x0488B21E), (1, 1, 0x049D7CB2), (1, 2, 0x04B24746),
         (0, 0, 0x0488ADE4), (0, 1, 0x049D7878), (0, 2, 0x04B2430C)] ∧
      Generated.versionsTest =
        [(1, 0, 0x043587CF), (1, 1, 0x044A5262), (1, 2, 0x045F1CF6),
         (0, 0, 0x04358394), (0, 1, 0x044A4E28), (0, 2, 0x045F18BC)] ∧
      Generated.pubMain = 0x0488B21E ∧ Generated.prvMain = 0x0488ADE4 ∧
      Generated.pubTest = 0x043587CF ∧ Generated.prvTest = 0x04358394 := by decide

theorem versions_distinct : allVersions.Nodup ∧ allVersions.length = 12 := by decide

/-- `Version.parse (int(Version(k, b, t))) = Version(k, b, t)` for both key types, the three
BIP flavours and both networks -/
theorem version_parse_toInt :
    ∀ k ∈ [0, 1], ∀ b ∈ [0, 1, 2], ∀ t : Bool,
      (Version.toInt ⟨k, b, t⟩).bind Version.parse = some ⟨k, b, t⟩ := by decide

/-- the full table: what each of the twelve prefixes means (key type PRV = 0 / PUB = 1,
BIP44/49/84 = 0/1/2, testnet flag) — the prefix alone determines all three -/
theorem version_table :
    [0x0488B21E, 0x049D7CB2, 0x04B24746, 0x0488ADE4, 0x049D7878, 0x04B2430C,
     0x043587CF, 0x044A5262, 0x045F1CF6, 0x04358394, 0x044A4E28, 0x045F18BC].map Version.parse =
    [some ⟨1, 0, false⟩, some ⟨1, 1, false⟩, some ⟨1, 2, false⟩,
     some ⟨0, 0, false⟩, some ⟨0, 1, false⟩, some ⟨0, 2, false⟩,
     some ⟨1, 0, true⟩, some ⟨1, 1, true⟩, some ⟨1, 2, true⟩,
     some ⟨0, 0, true⟩, some ⟨0, 1, true⟩, some ⟨0, 2, true⟩] := by decide

private theorem toInt_parse_all :
    ∀ v ∈ allVersions, (Version.parse v).bind Version.toInt = some v := by decide

/-- `int(Version.parse(v)) = v` for every valid version -/
theorem version_toInt_parse (v : Nat) (h : validVersion v = true) :
    (Version.parse v).bind Version.toInt = some v :=
  toInt_parse_all v (of_decide_eq_true h)

theorem version_parse_none (v : Nat) (h : validVersion v = false) : Version.parse v = none := by
  unfold Version.parse
  rw [h]; rfl

theorem version_parse_isSome_iff (v : Nat) : (Version.parse v).isSome = true ↔ v ∈ allVersions := by
  unfold Version.parse validVersion
  split
  · next h => exact iff_of_true rfl (of_decide_eq_true h)
  · next h => exact iff_of_false Bool.false_ne_true fun hm => h (decide_eq_true hm)

/-- **what `from_extended_key` returns**: a wallet is built exactly when the string passes
Base58Check and its first four bytes are one of the twelve versions; key type (private /
watch-only) and network of the wallet are those the version table gives -/
theorem fromExtendedKey_spec (P : Prims Pt) (s : List Char) (w : Wallet.Wallet) :
    Wallet.fromExtendedKey P s = some w ↔
      ∃ payload v, Base58.decodeCheck P.hash256 s = some payload ∧
        Version.parse (beToNat (payload.take 4)) = some v ∧
        w = ⟨parseBytes (decide (v.keyType = 0)) v.testnet payload, v.testnet, none, none⟩ := by
  simp only [fromExtendedKey_eq, Option.bind_eq_some_iff, Option.map_eq_some_iff, exists_and_left,
    eq_comm (a := w)]

/-- **unknown version ⇒ no wallet**: a string whose payload does not start with one of the
twelve versions is refused -/
theorem fromExtendedKey_unknown_version (P : Prims Pt) (s : List Char) (payload : Bytes)
    (hd : Base58.decodeCheck P.hash256 s = some payload)
    (hv : validVersion (beToNat (payload.take 4)) = false) :
    Wallet.fromExtendedKey P s = none := by
  rw [fromExtendedKey_eq, hd, Option.bind_some, version_parse_none _ hv]
  rfl

/-- a string failing Base58Check (foreign character, bad checksum, too short) is refused -/
theorem fromExtendedKey_undecodable (P : Prims Pt) (s : List Char)
    (hd : Base58.decodeCheck P.hash256 s = none) : Wallet.fromExtendedKey P s = none := by
  rw [fromExtendedKey_eq, hd]
  rfl

/-- **import of any serialised key**: the wallet built from the string of a payload that starts
with version `v` holds the node parsed from that payload, with key class and network read off
`v` alone (whatever node produced the payload) -/
theorem fromExtendedKey_encodeCheck (P : Prims Pt) (hlen : ∀ x, 4 ≤ (P.hash256 x).length)
    (payload : Bytes) (v : Nat) (hv4 : v < 2 ^ 32) (hpre : payload.take 4 = beFixed 4 v)
    (ver : Version) (hver : Version.parse v = some ver) :
    Wallet.fromExtendedKey P (Base58.encodeCheck P.hash256 payload) =
      some ⟨parseBytes (decide (ver.keyType = 0)) ver.testnet payload, ver.testnet, none, none⟩ :=
  fromExtendedKey_of_version P hlen (by rw [hpre, BeFixed.beToNat_beFixed (by omega)]) hver

/-- **the public serialisation depends on the node only through its public view**: two nodes
with the same header, chain code and public key (e.g. a private node and its neutered public
node, or the 32- and 33-byte forms of the same scalar) have the same `serialize_public` -/
theorem public_view_determines (P : Prims Pt) (a b : Node) (version : Option Nat)
    (hdepth : a.depth = b.depth) (hindex : a.index = b.index) (hpar : a.hasParent = b.hasParent)
    (hfp : a.parentFp = b.parentFp) (hcc : a.chainCode = b.chainCode)
    (ht : a.testnet = b.testnet) (hK : pubKey P a = pubKey P b) :
    serializePublic P a version = serializePublic P b version := by
  unfold serializePublic serializeWith pubVersion isMaster parentFingerprint
  rw [hdepth, hindex, hpar, hfp, hcc, ht, hK]

/-- for a private node with scalar `k` the public serialisation is
`_serialize` applied to `sec(k·G)` — the key field is the compressed public key and the
scalar enters in no other way — and it equals the serialisation of the neutered node -/
theorem public_factors {P : Prims Pt} {nd : Node} (hC : CurveLaws P.curve) {k : Nat}
    (hprv : nd.isPrv = true) (hk : prvKey P nd = some k) (version : Option Nat) :
    serializePublic P nd version
        = serializeWith nd (P.curve.sec true (P.curve.mulGen k)) (version.getD (pubVersion nd)) ∧
      ∃ nn, neuter P nd = some nn ∧ nn.isPrv = false ∧
        nn.key = P.curve.sec true (P.curve.mulGen k) ∧
        serializePublic P nn version = serializePublic P nd version := by
  have hK := pubKey_of_prvKey hprv hk
  refine ⟨by rw [serializePublic, hK]; rfl, _, neuter_eq_some hK, rfl, rfl, ?_⟩
  apply public_view_determines <;> try rfl
  rw [hK]
  exact (pubKey_of_pub rfl).trans
    (hC.parse_sec true _ (hC.mulGen_notInf k (prvKey_range hk).1 (prvKey_range hk).2))

/-- a master node (depth 0, index 0, no parent — in particular every result of
`master_key`) is serialised, publicly or privately, with bytes 4..12 (depth, parent
fingerprint, child number) all zero -/
theorem master_zero (P : Prims Pt) (nd : Node) (hm : isMaster nd = true) (version : Option Nat)
    (ser : Bytes)
    (hs : serializePublic P nd version = some ser ∨ serializePrivate P nd version = some ser) :
    (ser.drop 4).take 9 = List.replicate 9 0 := by
  obtain ⟨key, v, h⟩ : ∃ key v, serializeWith nd key v = some ser := by
    rcases hs with hs | hs
    · obtain ⟨_, _, h⟩ := serializePublic_eq_some.mp hs
      exact ⟨_, _, h⟩
    · obtain ⟨_, _, _, h⟩ := serializePrivate_eq_some.mp hs
      exact ⟨_, _, h⟩
  rw [serializeWith_layout h]
  exact layout_master_zero hm key v

/-- `master_key` returns a master node (so `master_zero` applies), private, BIP32-valid -/
theorem masterKey_isMaster {P : Prims Pt} {seed : Bytes} {t : Bool} {nd : Node}
    (h : masterKey P seed t = some nd) :
    isMaster nd = true ∧ BIP32valid nd ∧ nd.isPrv = true ∧ nd.testnet = t :=
  masterKey_shape h

/-- derived children are BIP32-valid (depth ≥ 1), so the round-trip theorems apply to them -/
theorem child_valid (nd : Node) (key chain : Bytes) (i : Nat) (fp : Bytes) :
    BIP32valid (mkChild nd key chain i fp) :=
  BIP32valid_of_depth_pos (Nat.succ_pos _)

/-- the hypotheses of the private round trip are satisfiable: a curve instance with
`CurveLaws`, a 32-byte hash, a well-formed BIP32-valid private node, and its xprv exists -/
example : ∃ (P : Prims Nat) (nd : Node), CurveLaws P.curve ∧ (∀ x, 4 ≤ (P.hash256 x).length) ∧
    nd.WF P ∧ BIP32valid nd ∧ nd.isPrv = true ∧ ∃ s, extendedPrivateKey P nd none = some s := by
  refine ⟨Toy.prims, Toy.prvNode, Toy.laws, Toy.hash256_len,
    Toy.prvNode_wf, Toy.prvNode_valid, rfl, ?_⟩
  obtain ⟨ser, h, _⟩ := serialize_length_private (P := Toy.prims) Toy.laws Toy.prvNode_wf rfl none
    (prvVersion_lt _)
  exact ⟨_, by unfold extendedPrivateKey; rw [h]; rfl⟩

/-- likewise for a public (hardened-index, testnet) node under the `vpub` version -/
example : ∃ s, extendedPublicKey Toy.prims Toy.pubNode (some 0x045F1CF6) = some s ∧
    s.length = 111 := by
  obtain ⟨ser, h, _⟩ := serialize_length_public (P := Toy.prims) Toy.laws Toy.pubNode_wf
    (some 0x045F1CF6) (by decide)
  have hs : extendedPublicKey Toy.prims Toy.pubNode (some 0x045F1CF6)
      = some (Base58.encodeCheck Toy.prims.hash256 ser) := by
    unfold extendedPublicKey; rw [h]; rfl
  obtain ⟨_, _, _, _, _, _, hl⟩ := xpub_roundtrip Toy.laws
    Toy.hash256_len Toy.pubNode_wf Toy.pubNode_valid _ _ hs
  exact ⟨_, hs, hl (by decide)⟩

/-- `BIP32valid` cannot be dropped: a well-formed master-shaped node storing a non-zero parent
fingerprint does not survive serialise-then-parse (the fingerprint is written as zero) -/
example : ∃ ser, serializePrivate Toy.prims Toy.badMaster none = some ser ∧
    nodeEq (parseBytes true Toy.badMaster.testnet ser) Toy.badMaster = false := by
  obtain ⟨ser, h, _⟩ := serialize_length_private (P := Toy.prims) Toy.laws Toy.badMaster_wf rfl
    none (prvVersion_lt _)
  refine ⟨ser, h, ?_⟩
  have := parse_serialize_prv_iff Toy.laws Toy.badMaster_wf none ser h
  cases hq : nodeEq (parseBytes true Toy.badMaster.testnet ser) Toy.badMaster with
  | false => rfl
  | true =>
    have h2 := this.mp hq (by decide)
    exact absurd h2 (by decide)

/-- observation (not required by the property, mirrored from the code and reproduced on it):
`from_extended_key` checks the version only — a checksummed string holding just the four `xpub`
version bytes builds a watch-only wallet whose key and chain code are empty -/
example : ∃ w, Wallet.fromExtendedKey Toy.prims
      (Base58.encodeCheck Toy.prims.hash256 (beFixed 4 0x0488B21E)) = some w ∧
    w.master.key = [] ∧ w.master.chainCode = [] ∧ w.master.isPrv = false :=
  ⟨_, fromExtendedKey_encodeCheck Toy.prims Toy.hash256_len
    (beFixed 4 0x0488B21E) 0x0488B21E (by decide) (by decide) ⟨1, 0, false⟩ (by decide),
    by decide, by decide, by decide⟩

end BtcHd.C07
