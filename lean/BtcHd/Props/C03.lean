/-
C03 — Seed and master key derivation.

"For every mnemonic string and passphrase, including arbitrary Unicode, the seed is
PBKDF2-HMAC-SHA512 (2048 rounds, 64 bytes) over the NFKD-normalised mnemonic with salt
"mnemonic" + NFKD(passphrase), and the master private key and chain code are the two halves
of HMAC-SHA512 keyed "Bitcoin seed" over that seed.  A wallet built from the mnemonic, from
the entropy that encodes it, from the seed as bytes or hex, or from the resulting master
extended private key holds the same master key material, and the network flag never changes
key material."

Property theorems only (helpers: `Lemmas/Seed.lean`, for the constructors `Lemmas/Wallet.lean`).
`P.nfkd`, `P.pbkdf2`, `P.hmac512` are parameters of the model (`unicodedata.normalize`,
`hashlib.pbkdf2_hmac`, `hmac`), so every statement holds for every instance of them; the output
length of PBKDF2 (64 bytes) is a property of that primitive and is not needed by any statement below.
-/
import BtcHd.Lemmas.Seed
import BtcHd.Lemmas.Wallet
import BtcHd.Lemmas.ToyBip85
import BtcHd.Props.C04
import BtcHd.Lemmas.ToyNodes
import BtcHd.Props.C18

namespace BtcHd.C03
open BtcHd Bip32 Bip39 Wallet Text Keys

variable {Pt : Type}

/-! ### the seed -/

/-- the constants of the source: 2048 rounds, salt prefix `mnemonic`, HMAC key `Bitcoin seed` -/
theorem constants : Generated.pbkdf2Rounds = 2048 ∧ Generated.saltPrefix = "mnemonic".toList ∧
    Generated.masterKeyHmacKey = utf8 "Bitcoin seed".toList := by
  -- the literals as explicit character lists, so that the kernel does not run the UTF-8 decoder
  repeat rw [String.toList_ofList]
  exact ⟨rfl, rfl, by decide +kernel⟩

/-- the seed exactly as the code computes it: PBKDF2 (2048 rounds) with password
`UTF-8(NFKD(mnemonic))` and salt `UTF-8(NFKD("mnemonic") + NFKD(passphrase))`, for arbitrary
(Unicode) strings -/
theorem seed_spec_raw (P : Prims Pt) (m p : List Char) :
    seedFromMnemonic P m p =
      P.pbkdf2 (utf8 (P.nfkd m)) (utf8 (P.nfkd "mnemonic".toList ++ P.nfkd p)) 2048 := by
  unfold seedFromMnemonic
  rw [constants.1, constants.2.1]

/-- the seed, given that NFKD leaves the ASCII word `mnemonic` unchanged: PBKDF2 (2048 rounds)
over `UTF-8(NFKD(mnemonic))` with salt `"mnemonic" ‖ UTF-8(NFKD(passphrase))` -/
theorem seed_spec (P : Prims Pt) (hnf : P.nfkd "mnemonic".toList = "mnemonic".toList)
    (m p : List Char) :
    seedFromMnemonic P m p =
      P.pbkdf2 (utf8 (P.nfkd m)) (utf8 ("mnemonic".toList ++ P.nfkd p)) 2048 ∧
    utf8 ("mnemonic".toList ++ P.nfkd p) =
      [0x6d, 0x6e, 0x65, 0x6d, 0x6f, 0x6e, 0x69, 0x63] ++ utf8 (P.nfkd p) := by
  refine ⟨by rw [seed_spec_raw, hnf], ?_⟩
  rw [utf8_append, String.toList_ofList]
  rfl

example : Toy.prims.nfkd "mnemonic".toList = "mnemonic".toList := rfl

/-- with an empty passphrase the salt is the eight bytes of `mnemonic` (NFKD of the empty
string being empty) -/
theorem seed_no_passphrase (P : Prims Pt) (hnf : P.nfkd "mnemonic".toList = "mnemonic".toList)
    (hnil : P.nfkd [] = []) (m : List Char) :
    seedFromMnemonic P m [] =
      P.pbkdf2 (utf8 (P.nfkd m)) [0x6d, 0x6e, 0x65, 0x6d, 0x6f, 0x6e, 0x69, 0x63] 2048 := by
  rw [(seed_spec P hnf m []).1, (seed_spec P hnf m []).2, hnil]
  rfl

/-- UTF-8 sanity: ASCII text is encoded one byte per character (its code point); in general a
code point takes 1, 2, 3 or 4 bytes by range, and encoding distributes over concatenation -/
theorem utf8_sanity :
    (∀ s : List Char, (∀ c ∈ s, c.toNat < 128) → utf8 s = s.map fun c => UInt8.ofNat c.toNat) ∧
    (∀ c : Char, (utf8Char c).length =
      if c.toNat < 0x80 then 1 else if c.toNat < 0x800 then 2 else if c.toNat < 0x10000 then 3
      else 4) ∧
    (∀ a b : List Char, utf8 (a ++ b) = utf8 a ++ utf8 b) :=
  ⟨utf8_ascii, utf8Char_length, utf8_append⟩

/-- the encoder of the model is UTF-8 as defined by Lean's core library
(`String.utf8EncodeChar`), for every Unicode scalar value -/
theorem utf8_is_core_utf8 (s : List Char) : utf8 s = s.flatMap String.utf8EncodeChar := by
  unfold utf8
  congr 1
  funext c
  exact utf8Char_eq_core c

/-- UTF-8 on samples from each length class: `é` (U+00E9), `あ` (U+3042), `😀` (U+1F600) -/
example : utf8 [Char.ofNat 0xE9] = [0xC3, 0xA9] ∧ utf8 [Char.ofNat 0x3042] = [0xE3, 0x81, 0x82] ∧
    utf8 [Char.ofNat 0x1F600] = [0xF0, 0x9F, 0x98, 0x80] := by decide +kernel

/-! ### the master key -/

/-- **master key**: with `I = HMAC-SHA512("Bitcoin seed", seed)` and `IL` its first 32 bytes as
an integer, `master_key` fails iff `IL = 0` or `IL ≥ n`, and otherwise returns the depth-0
private node with key `I[:32]` and chain code `I[32:]` -/
theorem master_spec (P : Prims Pt) (seed : Bytes) (t : Bool) :
    masterKey P seed t =
      if 1 ≤ beToNat ((P.hmac512 (utf8 "Bitcoin seed".toList) seed).take 32) ∧
          beToNat ((P.hmac512 (utf8 "Bitcoin seed".toList) seed).take 32) < P.curve.n then
        some { isPrv := true, key := (P.hmac512 (utf8 "Bitcoin seed".toList) seed).take 32,
               chainCode := (P.hmac512 (utf8 "Bitcoin seed".toList) seed).drop 32, depth := 0,
               index := 0, testnet := t, hasParent := false, parentFp := none, path := [],
               parsedVersion := none }
      else none := by
  rw [← constants.2.2]
  exact masterKey_eq P seed t

/-- the fields of a returned master node (restating `C18.master_valid` for the seed of a
mnemonic): key and chain code are the two halves of the HMAC output, the key is a valid scalar -/
theorem master_of_mnemonic (P : Prims Pt) (mn pw : List Char) (t : Bool) (m : Node)
    (h : masterKey P (seedFromMnemonic P mn pw) t = some m) :
    m.key = (P.hmac512 Generated.masterKeyHmacKey (seedFromMnemonic P mn pw)).take 32 ∧
    m.chainCode = (P.hmac512 Generated.masterKeyHmacKey (seedFromMnemonic P mn pw)).drop 32 ∧
    1 ≤ beToNat m.key ∧ beToNat m.key < P.curve.n ∧ m.depth = 0 ∧ m.index = 0 ∧
    m.isPrv = true ∧ m.testnet = t := by
  obtain ⟨h1, h2, h3, h4, h5, h6, h7, h8⟩ := C18.master_valid P _ t m h
  exact ⟨h3, h4, h1, h2, h5, h6, h8, h7⟩

/-! ### the constructors agree -/

/-- `from_mnemonic` is `from_bip39_seed_bytes` on the seed, remembering mnemonic and passphrase -/
theorem fromMnemonic_eq (P : Prims Pt) (mn pw : List Char) (t : Bool) :
    fromMnemonic P mn pw t =
      (fromSeedBytes P (seedFromMnemonic P mn pw) t).map fun w =>
        { w with mnemonic := some mn, password := some pw } := rfl

/-- `from_bip39_seed_hex` on hex text decoding to `s` is `from_bip39_seed_bytes` on `s`; in particular on
`s.hex()` -/
theorem fromSeedHex_eq (P : Prims Pt) (s : Bytes) (t : Bool) :
    (∀ h, fromHex h = some s → fromSeedHex P h t = fromSeedBytes P s t) ∧
    fromSeedHex P (toHex s) t = fromSeedBytes P s t := by
  have key : ∀ h, fromHex h = some s → fromSeedHex P h t = fromSeedBytes P s t := by
    intro h hh
    unfold fromSeedHex
    rw [hh]; rfl
  exact ⟨key, key _ (C04.fromHex_toHex s)⟩

/-- `from_entropy_hex` is `mnemonic_from_entropy` followed by `from_mnemonic` -/
theorem fromEntropyHex_eq (P : Prims Pt) (e pw : List Char) (t : Bool) :
    fromEntropyHex P e pw t =
      (mnemonicFromEntropy P.sha256 e).bind fun mn => fromMnemonic P mn pw t := rfl

/-- **constructors agree**: for any mnemonic, passphrase and network, the wallets built from
the mnemonic, from its seed as bytes and from its seed as hex hold the identical master node
and network flag (all three fail together); the first differs from the others only in
remembering mnemonic and passphrase -/
theorem constructors_agree (P : Prims Pt) (mn pw : List Char) (t : Bool) :
    let seed := seedFromMnemonic P mn pw
    fromSeedHex P (toHex seed) t = fromSeedBytes P seed t ∧
    (fromMnemonic P mn pw t).map (·.master) = (fromSeedBytes P seed t).map (·.master) ∧
    (fromMnemonic P mn pw t).map (·.testnet) = (fromSeedBytes P seed t).map (·.testnet) ∧
    (fromSeedBytes P seed t).map (·.master) = masterKey P seed t ∧
    (∀ w, fromMnemonic P mn pw t = some w → w.mnemonic = some mn ∧ w.password = some pw) ∧
    (∀ w, fromSeedBytes P seed t = some w →
      w.mnemonic = none ∧ w.password = none ∧ w.testnet = t) := by
  intro seed
  refine ⟨(fromSeedHex_eq P seed t).2, ?_, ?_, ?_, ?_, ?_⟩
  · rw [fromMnemonic_eq]; cases fromSeedBytes P (seedFromMnemonic P mn pw) t <;> rfl
  · rw [fromMnemonic_eq]; cases fromSeedBytes P (seedFromMnemonic P mn pw) t <;> rfl
  · unfold fromSeedBytes; cases masterKey P seed t <;> rfl
  · intro w hw
    obtain ⟨m, _, rfl⟩ := fromMnemonic_eq_some hw
    exact ⟨rfl, rfl⟩
  · intro w hw
    obtain ⟨m, _, rfl⟩ := fromSeedBytes_eq_some.mp hw
    exact ⟨rfl, rfl, rfl⟩

/-- **from the entropy that encodes the mnemonic**: if `mnemonic_from_entropy(e) = mn` then the
wallet built from the entropy hex `e` is the wallet built from `mn` -/
theorem fromEntropy_agrees (P : Prims Pt) (e mn pw : List Char) (t : Bool)
    (h : mnemonicFromEntropy P.sha256 e = some mn) :
    fromEntropyHex P e pw t = fromMnemonic P mn pw t := by
  rw [fromEntropyHex_eq, h]; rfl

theorem fromEntropy_rejects (P : Prims Pt) (e pw : List Char) (t : Bool)
    (h : mnemonicFromEntropy P.sha256 e = none) : fromEntropyHex P e pw t = none := by
  rw [fromEntropyHex_eq, h]; rfl

example : ∃ e mn, mnemonicFromEntropy Toy.prims.sha256 e = some mn :=
  ⟨List.replicate 32 '0', _, (C04.mnemonic_spec Toy.prims.sha256 (fun _ => by simp [Toy.prims])
    (List.replicate 32 '0') (List.replicate 16 0) (by decide +kernel) (by decide)).choose_spec.choose_spec.2.1⟩

/-- **re-import of the master extended private key**: if `from_bip39_seed_bytes` built `w` and `x` is
the extended private key of its master node (default version for the wallet's network), then
`from_extended_key(x)` builds a private wallet on the same network whose master node equals
(`__eq__`) that of `w`: same scalar, chain code, depth, index, network and fingerprint -/
theorem xprv_reimport (P : Prims Pt) (hC : CurveLaws P.curve)
    (hlen : ∀ x, 4 ≤ (P.hash256 x).length) (hhmac : ∀ k d, (P.hmac512 k d).length = 64)
    (s : Bytes) (t : Bool) (w : Wallet) (x : List Char) (hw : fromSeedBytes P s t = some w)
    (hx : extendedPrivateKey P w.master none = some x) :
    ∃ w', fromExtendedKey P x = some w' ∧ nodeEq w'.master w.master = true ∧ w'.testnet = t ∧
      w'.master.isPrv = true ∧ w'.master.chainCode = w.master.chainCode ∧
      beToNat w'.master.key = beToNat w.master.key ∧ w'.mnemonic = none ∧ w'.password = none := by
  obtain ⟨m, hm, rfl⟩ := fromSeedBytes_eq_some.mp hw
  have hwf : m.WF P := masterKey_WF hhmac hm
  obtain ⟨_, hvalid, hprv, rfl⟩ := XKey.masterKey_shape hm
  obtain ⟨ser, hser, rfl⟩ := Option.map_eq_some_iff.mp hx
  obtain ⟨_, k, hk, hser⟩ := XKey.serializePrivate_eq_some.mp hser
  -- as for a public key in `WatchOnly.import_xpub`: the string is read back as the node `parsedOf` of `m`
  rw [XKey.fromExtendedKey_of_version P hlen (XKey.serializeWith_version hser)
      (XKey.parse_prvVersion m),
    XKey.parseBytes_serializeWith _ _ hwf.chain_len hwf.fp_len (XKey.prvKeyField_length k) hser]
  have hkey := XKey.beToNat_prvKeyField hk
  exact ⟨_, rfl, XKey.nodeEq_parsedOf _ hwf.fp_len hvalid hprv hkey, rfl, rfl, rfl, hkey, rfl, rfl⟩

/-- the hypotheses of `xprv_reimport` on the primitives are satisfiable -/
example : CurveLaws Toy.prims.curve ∧ (∀ x, 4 ≤ (Toy.prims.hash256 x).length) ∧
    (∀ k d, (Toy.prims.hmac512 k d).length = 64) :=
  ⟨Toy.laws, Toy.hash256_len, fun _ _ => by simp [Toy.prims]⟩

/-- … including the existence of a wallet and of its master xprv (toy curve of order 7 with a
constant HMAC whose halves are both 1) -/
example : CurveLaws Toy.prims7.curve ∧ (∀ x, 4 ≤ (Toy.prims7.hash256 x).length) ∧
    (∀ k d, (Toy.prims7.hmac512 k d).length = 64) ∧
    ∃ w x, fromSeedBytes Toy.prims7 [] true = some w ∧
      extendedPrivateKey Toy.prims7 w.master none = some x := by
  refine ⟨Toy.laws7, fun x => by rw [Toy.hash256_length7]; decide, fun _ _ => rfl, ?_⟩
  let m : Node :=
    { isPrv := true, key := Toy.hm7.take 32, chainCode := Toy.hm7.drop 32, depth := 0, index := 0,
      testnet := true, hasParent := false, parentFp := none, path := [], parsedVersion := none }
  have hm : masterKey Toy.prims7 [] true = some m := by decide +kernel
  have hx : (extendedPrivateKey Toy.prims7 m none).isSome = true := by decide +kernel
  obtain ⟨x, hx⟩ := Option.isSome_iff_exists.mp hx
  exact ⟨⟨m, true, none, none⟩, x, fromSeedBytes_eq_some.mpr ⟨m, hm, rfl⟩, hx⟩

/-- the same for a wallet built from a mnemonic: exporting the master xprv and importing it
gives back a wallet with an equal master node on the same network -/
theorem xprv_reimport_mnemonic (P : Prims Pt) (hC : CurveLaws P.curve)
    (hlen : ∀ x, 4 ≤ (P.hash256 x).length) (hhmac : ∀ k d, (P.hmac512 k d).length = 64)
    (mn pw : List Char) (t : Bool) (w : Wallet) (x : List Char)
    (hw : fromMnemonic P mn pw t = some w)
    (hx : extendedPrivateKey P w.master none = some x) :
    ∃ w', fromExtendedKey P x = some w' ∧ nodeEq w'.master w.master = true ∧ w'.testnet = t ∧
      w'.master.isPrv = true := by
  obtain ⟨m, hm, rfl⟩ := fromMnemonic_eq_some hw
  obtain ⟨w', h1, h2, h3, h4, _⟩ :=
    xprv_reimport P hC hlen hhmac _ t ⟨m, t, none, none⟩ x (fromSeedBytes_eq_some.mpr ⟨m, hm, rfl⟩) hx
  exact ⟨w', h1, h2, h3, h4⟩

/-! ### the network flag never changes key material -/

/-- two nodes that differ at most in the network flag -/
def sameMaterial (a b : Node) : Prop :=
  a.key = b.key ∧ a.chainCode = b.chainCode ∧ a.depth = b.depth ∧ a.index = b.index ∧
  a.parentFp = b.parentFp ∧ a.isPrv = b.isPrv ∧ a.path = b.path ∧ a.hasParent = b.hasParent ∧
  a.parsedVersion = b.parsedVersion

private theorem sameMaterial_setNet (t : Bool) (b : Node) : sameMaterial (setNet t b) b :=
  ⟨rfl, rfl, rfl, rfl, rfl, rfl, rfl, rfl, rfl⟩

/-- `sameMaterial a b` says exactly that `a` is `b` with the network flag replaced -/
theorem sameMaterial_iff (a b : Node) : sameMaterial a b ↔ a = setNet a.testnet b := by
  refine ⟨?_, fun h => h ▸ sameMaterial_setNet _ _⟩
  rintro ⟨h1, h2, h3, h4, h5, h6, h7, h8, h9⟩
  cases a; cases b
  subst h1 h2 h3 h4 h5 h6 h7 h8 h9
  rfl

/-- **master**: the master nodes for the two networks are both errors or differ only in the
network flag — same key, same chain code -/
theorem network_irrelevant_master (P : Prims Pt) (s : Bytes) :
    masterKey P s true = (masterKey P s false).map (setNet true) ∧
    ((masterKey P s true).isSome = (masterKey P s false).isSome) ∧
    ∀ a b, masterKey P s true = some a → masterKey P s false = some b →
      sameMaterial a b ∧ a.key = b.key ∧ a.chainCode = b.chainCode := by
  have h := masterKey_setNet P s true false
  refine ⟨h, by rw [h, Option.isSome_map], fun a b ha hb => ?_⟩
  rw [hb] at h
  obtain rfl := Option.some.inj (ha.symm.trans h)
  exact ⟨sameMaterial_setNet _ _, rfl, rfl⟩

/-- **child derivation**: if two nodes differ only in the network flag, then `ckd` fails on
both or gives children that differ only in the network flag -/
theorem network_irrelevant_ckd (P : Prims Pt) (a b : Node) (i : Nat) (h : sameMaterial a b) :
    (ckd P a i = none ∧ ckd P b i = none) ∨
    ∃ ca cb, ckd P a i = some ca ∧ ckd P b i = some cb ∧ sameMaterial ca cb ∧
      ca.testnet = a.testnet ∧ cb.testnet = b.testnet := by
  rw [(sameMaterial_iff a b).mp h, ckd_setNet]
  cases hb : ckd P b i with
  | none => exact .inl ⟨rfl, rfl⟩
  | some cb => exact .inr ⟨_, cb, rfl, rfl, sameMaterial_setNet _ _, rfl, Bip32.ckd_testnet hb⟩

/-- **whole paths**: deriving any list of indexes from two nodes that differ only in the
network flag fails on both or gives nodes that differ only in the network flag -/
theorem network_irrelevant_derivePath (P : Prims Pt) (a b : Node) (is : List Nat)
    (h : sameMaterial a b) :
    derivePath P a is = (derivePath P b is).map (setNet a.testnet) ∧
    ((derivePath P a is = none ∧ derivePath P b is = none) ∨
      ∃ ca cb, derivePath P a is = some ca ∧ derivePath P b is = some cb ∧ sameMaterial ca cb) := by
  have e : derivePath P a is = (derivePath P b is).map (setNet a.testnet) := by
    conv_lhs => rw [(sameMaterial_iff a b).mp h]
    exact derivePath_setNet P a.testnet b is
  refine ⟨e, ?_⟩
  rw [e]
  cases derivePath P b is with
  | none => exact .inl ⟨rfl, rfl⟩
  | some cb => exact .inr ⟨_, cb, rfl, rfl, sameMaterial_setNet _ _⟩

/-- **wallets**: the mainnet and testnet wallets of one mnemonic and passphrase hold master
nodes with the same key and chain code, and so do all nodes derived from them by any path -/
theorem network_irrelevant_wallet (P : Prims Pt) (mn pw : List Char) (wt wf : Wallet)
    (ht : fromMnemonic P mn pw true = some wt) (hf : fromMnemonic P mn pw false = some wf) :
    sameMaterial wt.master wf.master ∧ wt.master.key = wf.master.key ∧
      wt.master.chainCode = wf.master.chainCode ∧
      ∀ is, derivePath P wt.master is = (derivePath P wf.master is).map (setNet true) := by
  obtain ⟨a, ha, rfl⟩ := fromMnemonic_eq_some ht
  obtain ⟨b, hb, rfl⟩ := fromMnemonic_eq_some hf
  obtain ⟨hs, hk, hc⟩ := (network_irrelevant_master P _).2.2 a b ha hb
  refine ⟨hs, hk, hc, fun is => ?_⟩
  have := (network_irrelevant_derivePath P a b is hs).1
  rwa [(XKey.masterKey_shape ha).2.2.2] at this

example : sameMaterial (setNet true Toy.prvNode) Toy.prvNode :=
  sameMaterial_setNet _ _

end BtcHd.C03
