/-
Translated Python (`BtcHd.CodeObj2`, generated from /repo by harness/translate_obj2.py) = hand-written model:
the hash helpers of `helper.py`, `bip39_seed_from_mnemonic`, `keys.py` (`PublicKey.sec / parse / h160 / address`,
`PrivateKey.__bytes__ / parse / from_int / from_wif`) and `base_wallet.py` (`watch_only`, the five address kinds,
`by_path`, the constructors incl. `from_extended_key`, `determine_node_version_int`, `node_extended_*`).
The tables the translator uses are stated in the header of harness/translate_obj2.py.
-/
import BtcHd.Generated.CodeObj2
import BtcHd.Props.TrBip32
import BtcHd.Props.TrAddr
import BtcHd.Props.TrVarint
import BtcHd.Props.TrBip39
import BtcHd.Lemmas.Basics

namespace BtcHd.TrWallet
open BtcHd BtcHd.Translated Bip32 Keys Wallet

variable {Pt : Type}

/-- `sha256`, `hash256`, `hash160`, `hmac_sha512` of `helper.py` are the model's hash functions over the bundle -/
theorem hashes_eq (P : Prims Pt) (s k : Bytes) :
    CodeObj2.h_sha256 P s = P.sha256 s ∧ CodeObj2.h_hash256 P s = P.hash256 s ∧
      CodeObj2.h_hash160 P s = hash160 P s ∧ CodeObj2.h_hmac_sha512 P k s = P.hmac512 k s :=
  ⟨rfl, rfl, rfl, rfl⟩

/-- `bip39_seed_from_mnemonic`: PBKDF2 over the NFKD forms, salt `"mnemonic" ‖ passphrase`, the round count of the source -/
theorem seed_eq (P : Prims Pt) (m p : List Char) :
    CodeObj2.seed_from_mnemonic P m p = Bip39.seedFromMnemonic P m p := rfl

/-- `PublicKey.sec / parse / h160` -/
theorem pk_basic_eq (P : Prims Pt) (K : Pt) (c : Bool) (b : Bytes) :
    CodeObj2.pk_sec P K c = P.curve.sec c K ∧ CodeObj2.pk_parse P b = P.curve.parse b ∧
      CodeObj2.pk_h160 P K c = h160 P K c := by
  have hs : CodeObj2.pk_sec P K c = P.curve.sec c K := by cases c <;> rfl
  exact ⟨hs, rfl, congrArg (hash160 P) hs⟩

/-- `PublicKey.address`: the two supported kinds, anything else is refused -/
theorem pk_address_eq (P : Prims Pt) (K : Pt) (c t : Bool) (kind : List Char) :
    CodeObj2.pk_address P K c t kind =
      if kind = ['p', '2', 'p', 'k', 'h'] then some (pubP2pkh P K c t)
      else if kind = ['p', '2', 'w', 'p', 'k', 'h'] then segwitOf (h160 P K c) t else none := by
  unfold CodeObj2.pk_address
  rw [(pk_basic_eq P K c []).2.2]
  simp only [p2pkh_eq, p2wpkh_eq]
  split
  · rfl
  · split <;> rfl

private theorem decodeCheck_nil (h : Bytes → Bytes) (hlen : (h []).length = 32) : Base58.decodeCheck h [] = none := by
  have hne : (h []).take 4 ≠ [0] := fun e => by simpa [hlen] using congrArg List.length e
  exact if_neg hne

/-- `PrivateKey.__bytes__ / parse / from_int / from_wif` on the scalar representation.  (`wif_str[0]` of the empty text
is an IndexError in Python; the checksummed decoder refuses the empty text before that whenever the hash function
returns 32 bytes — the hypothesis `hlen`, proved for the driver's SHA-256.) -/
theorem sk_eq (P : Prims Pt) (k n : Nat) (b : Bytes) (s : List Char) (hlen : (P.hash256 []).length = 32) :
    CodeObj2.sk_bytes k = privBytes k ∧ CodeObj2.sk_parse P b = mkPriv P.curve b ∧
      CodeObj2.sk_from_int P n = privFromInt P.curve n ∧ CodeObj2.sk_from_wif P s = fromWif P s := by
  refine ⟨rfl, rfl, ?_, ?_⟩
  · unfold CodeObj2.sk_from_int privFromInt
    rw [(int_helpers_eq [] n 32).2.2]
    cases toBytesBE 32 n <;> rfl
  · unfold CodeObj2.sk_from_wif fromWif
    simp only [decode_base58_checksum_eq]
    cases s with
    | nil => rw [decodeCheck_nil _ hlen]; rfl
    | cons c rest =>
      cases Base58.decodeCheck P.hash256 (c :: rest) with
      | none => rfl
      | some d =>
        have hm : (c ∈ [Char.ofNat 75, Char.ofNat 76, Char.ofNat 99]) ↔ (c = 'K' ∨ c = 'L' ∨ c = 'c') := by
          simp only [List.mem_cons, List.not_mem_nil, or_false]
        simp only [Option.bind_some, Option.bind_eq_bind, List.getElem!_cons_zero, hm, Basics.dropLastN_one]
        split
        · by_cases hl : d.getLast? = some 1 <;> simp only [hl, not_true_eq_false, not_false_eq_true, ↓reduceIte]
          rfl
        · rfl

open BtcHd.TrBip32 in
/-- `watch_only` and the five address kinds of `BaseWallet` (every kind follows the WALLET's network flag) -/
theorem addresses_eq (P : Prims Pt) (w : Wallet) (nd : Node) :
    CodeObj2.w_watch_only w = w.watchOnly ∧
    CodeObj2.w_p2pkh_address P w nd = p2pkhAddress P w.testnet nd ∧
    CodeObj2.w_p2wpkh_address P w nd = p2wpkhAddress P w.testnet nd ∧
    CodeObj2.w_p2sh_p2wpkh_address P w nd = p2shP2wpkhAddress P w.testnet nd ∧
    CodeObj2.w_p2wsh_address P w nd = p2wshAddress P w.testnet nd ∧
    CodeObj2.w_p2sh_p2wsh_address P w nd = p2shP2wshAddress P w.testnet nd := by
  refine ⟨?_, ?_, ?_, ?_, ?_, ?_⟩
  · unfold CodeObj2.w_watch_only Wallet.watchOnly; cases w.master.isPrv <;> rfl
  · unfold CodeObj2.w_p2pkh_address p2pkhAddress
    simp only [public_key_eq, pk_address_eq]
    cases pubKey P nd <;> rfl
  · unfold CodeObj2.w_p2wpkh_address p2wpkhAddress
    simp only [public_key_eq, pk_address_eq]
    cases pubKey P nd <;> rfl
  · unfold CodeObj2.w_p2sh_p2wpkh_address p2shP2wpkhAddress
    simp only [public_key_eq, (pk_basic_eq P _ true []).2.2, raw_serialize_eq, (scripts_eq _).2.2.1, p2sh_eq,
      (hashes_eq P _ []).2.2.1]
    cases pubKey P nd <;> rfl
  · unfold CodeObj2.w_p2wsh_address p2wshAddress witnessScript
    simp only [public_key_eq, (pk_basic_eq P _ true []).1, raw_serialize_eq, p2wsh_eq, (hashes_eq P _ []).1]
    cases pubKey P nd <;> rfl
  · unfold CodeObj2.w_p2sh_p2wsh_address p2shP2wshAddress witnessScript
    simp only [public_key_eq, (pk_basic_eq P _ true []).1, raw_serialize_eq, p2sh_eq, (hashes_eq P _ []).1,
      (hashes_eq P _ []).2.2.1, (scripts_eq _).2.2.2, bind_pure_comp, Option.map_eq_map, Option.bind_eq_bind]

open BtcHd.TrBip32 in
/-- `by_path` and the constructors `from_bip39_seed_bytes / _hex`, `from_mnemonic`, `from_entropy_hex`,
`from_extended_key` -/
theorem constructors_eq (P : Prims Pt) (w : Wallet) (path seedHex m p e xk : List Char) (seed : Bytes) (t : Bool) :
    CodeObj2.w_by_path P w path = byPath P w path ∧
    CodeObj2.w_from_bip39_seed_bytes P seed t = fromSeedBytes P seed t ∧
    CodeObj2.w_from_bip39_seed_hex P seedHex t = fromSeedHex P seedHex t ∧
    CodeObj2.w_from_mnemonic P m p t = fromMnemonic P m p t ∧
    CodeObj2.w_from_entropy_hex P e p t = fromEntropyHex P e p t ∧
    CodeObj2.w_from_extended_key P xk = fromExtendedKey P xk := by
  have hsb : ∀ sd, CodeObj2.w_from_bip39_seed_bytes P sd t = fromSeedBytes P sd t := by
    intro sd
    unfold CodeObj2.w_from_bip39_seed_bytes fromSeedBytes
    rw [master_key_eq]
    cases masterKey P sd t <;> rfl
  have hmn : ∀ mm, CodeObj2.w_from_mnemonic P mm p t = fromMnemonic P mm p t := by
    intro mm
    unfold CodeObj2.w_from_mnemonic fromMnemonic
    simp only [hsb, seed_eq]
    cases fromSeedBytes P (Bip39.seedFromMnemonic P mm p) t <;> rfl
  refine ⟨?_, hsb seed, ?_, hmn m, ?_, ?_⟩
  · unfold CodeObj2.w_by_path byPath
    simp only [derive_path_eq]
    rfl
  · unfold CodeObj2.w_from_bip39_seed_hex fromSeedHex
    simp only [hsb]
    rfl
  · unfold CodeObj2.w_from_entropy_hex fromEntropyHex
    simp only [mnemonic_from_entropy_eq, hmn]
    rfl
  · unfold CodeObj2.w_from_extended_key fromExtendedKey
    simp only [(parse_eq P _ _ [] xk).2.2, Option.pure_def, Option.bind_eq_bind, Option.bind_assoc]
    -- both sides bind the probe, its version number and the version; then `if` stands against `decide`
    refine Option.bind_congr fun probe _ => Option.bind_congr fun v _ => Option.bind_congr fun ver _ => ?_
    by_cases hk : ver.keyType = 0 <;> simp only [hk, ↓reduceIte, decide_true, decide_false] <;>
      exact (Option.map_eq_bind ..).symm

open BtcHd.TrBip32 in
/-- `determine_node_version_int` + `int(version)`, `node_extended_public_key`, `node_extended_private_key`,
`node_extended_keys` -/
theorem node_keys_eq (P : Prims Pt) (w : Wallet) (nd : Node) (kt : Nat) :
    (CodeObj2.w_determine_node_version_int w nd kt).bind Path.Version.toInt = nodeVersionInt w nd kt ∧
    CodeObj2.w_node_extended_public_key P w nd = nodeExtendedPublicKey P w nd ∧
    CodeObj2.w_node_extended_private_key P w nd = nodeExtendedPrivateKey P w nd ∧
    CodeObj2.w_node_extended_keys P w nd = nodeExtendedKeys P w nd := by
  have hv : ∀ kt,
      (CodeObj2.w_determine_node_version_int w nd kt).bind Path.Version.toInt = nodeVersionInt w nd kt := by
    intro kt
    unfold CodeObj2.w_determine_node_version_int nodeVersionInt
    cases Path.parse (nodeRepr nd) <;> rfl
  -- the two methods bind the version, then its integer: `hv` under `Option.bind_assoc`
  have hpub : CodeObj2.w_node_extended_public_key P w nd = nodeExtendedPublicKey P w nd := by
    unfold CodeObj2.w_node_extended_public_key nodeExtendedPublicKey
    rw [← hv 1]
    simp only [(extended_keys_eq P nd _).1, Option.bind_eq_bind, Option.bind_assoc]
  have hprv : CodeObj2.w_node_extended_private_key P w nd = nodeExtendedPrivateKey P w nd := by
    unfold CodeObj2.w_node_extended_private_key nodeExtendedPrivateKey
    rw [← hv 0]
    cases hp : nd.isPrv with
    | false => rfl
    | true =>
      simp only [(extended_keys_eq P nd _).2 hp, Option.bind_eq_bind, Option.bind_assoc]
      rfl
  refine ⟨hv kt, hpub, hprv, ?_⟩
  unfold CodeObj2.w_node_extended_keys nodeExtendedKeys
  rw [hpub, hprv, (addresses_eq P w nd).1]
  -- the keys of the report as explicit character lists, so that `rfl` does not decode string literals
  repeat rw [String.toList_ofList]
  cases w.watchOnly <;> cases nodeExtendedPrivateKey P w nd <;> cases nodeExtendedPublicKey P w nd <;> rfl

end BtcHd.TrWallet
