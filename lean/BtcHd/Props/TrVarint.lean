/-
Translated Python (`BtcHd.Code`, generated from /repo by harness/translate.py) = hand-written model:
`helper.py` `int_to_little_endian`, `encode_varint`, `read_exact`, `read_varint` and `script.py` `Script.raw_serialize`,
`Script.serialize`, `Script.parse` — the whole wire format of C19.
-/
import BtcHd.Generated.Code
import BtcHd.Model.Script
import BtcHd.Lemmas.BeFixed

namespace BtcHd.Translated
open BtcHd BeFixed

/-- `none` = `OverflowError` -/
theorem int_to_little_endian_eq (n length : Nat) :
    Code.int_to_little_endian n length = toBytesLE length n := by
  unfold Code.int_to_little_endian
  cases toBytesLE length n <;> rfl

theorem encodeVarint_eq (i : Nat) : Code.encode_varint i = Varint.encodeVarint i := by
  unfold Code.encode_varint Varint.encodeVarint
  simp only [int_to_little_endian_eq]
  -- the same tests on both sides; only `toBytesLE` has to be evaluated in each arm
  by_cases h1 : i < 253
  · rw [if_pos h1, if_pos h1, toBytesLE_eq_some (Nat.lt_trans h1 (by decide))]
  rw [if_neg h1, if_neg h1]
  by_cases h2 : i < 65536
  · rw [if_pos h2, if_pos h2, toBytesLE_eq_some h2]; rfl
  rw [if_neg h2, if_neg h2]
  by_cases h3 : i < 4294967296
  · rw [if_pos h3, if_pos h3, toBytesLE_eq_some h3]; rfl
  rw [if_neg h3, if_neg h3]
  by_cases h4 : i < 18446744073709551616
  · rw [if_pos h4, if_pos h4, toBytesLE_eq_some h4]; rfl
  · rw [if_neg h4, if_neg h4]

section script
open BtcHd.Varint BtcHd.Script

theorem read_exact_eq (s : Bytes) (n : Nat) : Code.read_exact s n = readExact s n := by
  unfold Code.read_exact readExact
  by_cases h : n ≤ s.length
  · simp [h]
  · -- `len(s[:n]) != n` when fewer than `n` bytes are left
    simp [h]
    omega

private theorem readExact_one (i : UInt8) (rest : Bytes) :
    readExact (i :: rest) 1 = some ([i], rest) := by
  simp [readExact]

theorem read_varint_eq (s : Bytes) : Code.read_varint s = readVarint s := by
  unfold Code.read_varint readVarint
  simp only [read_exact_eq]
  cases s with
  | nil => rfl
  | cons i rest =>
    -- the model tests `i = 0xfd` on bytes, the code `i.toNat = 253` on numbers
    simp only [readExact_one, Option.bind_eq_bind, Option.bind_some, List.getElem!_cons_zero,
      ← UInt8.toNat_inj (a := i), UInt8.reduceToNat, Option.map_eq_bind]
    rfl

/-- the `for cmd in cmds` loop that appends one serialised command per round, against `rawSerialize` -/
theorem forIn_serCmd (l : List Cmd) (acc : Bytes) :
    forIn (m := Option) l acc (fun c r => (serCmd c).bind fun a => pure (ForInStep.yield (r ++ a))) =
      (rawSerialize l).map (acc ++ ·) := by
  induction l generalizing acc with
  | nil => simp [rawSerialize]
  | cons c cs ih =>
    rw [List.forIn_cons, rawSerialize]
    cases serCmd c with
    | none => rfl
    | some a =>
      simp only [Option.bind_eq_bind]
      show forIn cs (acc ++ a) _ = _
      rw [ih]
      cases rawSerialize cs <;> simp

theorem raw_serialize_eq (cmds : List Cmd) : Code.raw_serialize cmds = rawSerialize cmds := by
  unfold Code.raw_serialize
  simp only [int_to_little_endian_eq]
  rw [bind_pure]
  -- `forIn` cannot be rewritten under its lambda: the loop body the translator printed and the
  -- model's step (both found by unification) are shown equal as functions
  refine (congrArg (forIn cmds ([] : Bytes)) (funext fun cmd => funext fun r => ?_)).trans
    ((forIn_serCmd cmds []).trans (by cases rawSerialize cmds <;> simp))
  cases cmd with
  | op b => rfl
  | data d =>
    simp only [serCmd]
    by_cases h1 : d.length ≤ 75
    · simp [h1, toBytesLE_eq_some (show d.length < 256 ^ 1 by omega)]
    · by_cases h2 : 75 < d.length ∧ d.length < 256
      · simp [h1, h2, toBytesLE_eq_some (show d.length < 256 ^ 1 by omega),
          show toBytesLE 1 76 = some [76] from rfl]
      · by_cases h3 : 256 ≤ d.length ∧ d.length ≤ 520
        · simp [h1, h2, h3, toBytesLE_eq_some (show d.length < 256 ^ 2 by omega),
            show toBytesLE 1 77 = some [77] from rfl]
        · simp [h1, h2, h3]

theorem serialize_eq (cmds : List Cmd) : Code.serialize cmds = Script.serialize cmds := by
  unfold Code.serialize Script.serialize
  simp only [raw_serialize_eq, encodeVarint_eq]
  cases rawSerialize cmds with
  | none => rfl
  | some raw =>
    simp only [Option.bind_eq_bind, Option.bind_some]
    cases encodeVarint raw.length <;> rfl

/-- the `while count < length` loop as translated (state = stream, commands so far, count) against `parseLoop` -/
theorem forIn_parseLoop {α : Type} (length : Nat) (l : List α) (st : Bytes × List Cmd × Nat) :
    forIn (m := Option) l st (fun _ st =>
      if ¬ st.2.2 < length then pure (ForInStep.done st)
      else (parseOne st.1).bind fun r => pure (ForInStep.yield (r.2.2, st.2.1 ++ [r.1], st.2.2 + r.2.1))) =
    (parseLoop l.length length st.2.2 st.1).map fun r => (r.2.2, st.2.1 ++ r.1, r.2.1) := by
  induction l generalizing st with
  | nil => simp [parseLoop]
  | cons a l ih =>
    rw [List.forIn_cons]
    simp only [List.length_cons, parseLoop]
    by_cases hc : st.2.2 < length
    · simp only [hc]
      cases parseOne st.1 with
      | none => rfl
      | some r =>
        simp only [Option.bind_eq_bind, Option.bind_some]
        show forIn l (r.2.2, st.2.1 ++ [r.1], st.2.2 + r.2.1) _ = _
        rw [ih]
        cases parseLoop l.length length (st.2.2 + r.2.1) r.2.2 <;> simp
    · simp [hc]

/-- the three data rounds of the translated loop against `parseOne`: read the data, append the
command, add `1 + k` to the count -/
private theorem data_round (o : Option (Bytes × Bytes)) (cmds : List Cmd) {cnt k k' : Nat}
    (hk : cnt + 1 + k = cnt + k') :
    (o.bind fun x => pure (ForInStep.yield (x.2, cmds ++ [Cmd.data x.1], cnt + 1 + k))) =
      (o.map fun x => (Cmd.data x.1, k', x.2)).bind fun r =>
        (pure (ForInStep.yield (r.2.2, cmds ++ [r.1], cnt + r.2.1)) :
          Option (ForInStep (Bytes × List Cmd × Nat))) := by
  cases o with
  | none => rfl
  | some x => rw [Option.map_some, Option.bind_some, Option.bind_some, hk]

/-- the translation passes the stream as state and runs the `while` loop on fuel = unread bytes + 1 -/
theorem script_parse_eq (s : Bytes) : Code.script_parse s = Script.parse s := by
  unfold Code.script_parse Script.parse
  simp only [read_varint_eq, read_exact_eq, Code.little_endian_to_int, Id.run_pure]
  cases readVarint s with
  | none => rfl
  | some lv =>
    obtain ⟨length, body⟩ := lv
    simp only [Option.bind_eq_bind, Option.bind_some]
    -- as in `raw_serialize_eq`: the printed loop body is, as a function, the round of `forIn_parseLoop`
    rw [(congrArg (forIn (List.range (body.length + 1)) (body, ([] : List Cmd), 0))
      (funext fun _ => funext fun st => ?_)).trans (forIn_parseLoop length _ _), List.length_range]
    · cases parseLoop (body.length + 1) length 0 body with
      | none => rfl
      | some r => simp
    · by_cases hc : st.2.2 < length
      · simp only [hc]
        cases hs : st.1 with
        | nil => simp [readExact, parseOne]
        | cons cur rest =>
          simp only [readExact_one, Option.bind_some, List.getElem!_cons_zero, parseOne]
          by_cases c1 : 1 ≤ cur.toNat ∧ cur.toNat ≤ 75
          · rw [if_pos c1, if_pos c1]
            exact data_round _ _ (by omega)
          rw [if_neg c1, if_neg c1]
          by_cases c2 : cur.toNat = 76
          · rw [if_pos c2, if_pos c2]
            cases readExact rest 1 with
            | none => rfl
            | some l1 => exact data_round _ _ (by omega)
          rw [if_neg c2, if_neg c2]
          by_cases c3 : cur.toNat = 77
          · rw [if_pos c3, if_pos c3]
            cases readExact rest 2 with
            | none => rfl
            | some l1 => exact data_round _ _ (by omega)
          · rw [if_neg c3, if_neg c3]
            rfl
      · simp [hc]

theorem getElem!_take_one (rest : Bytes) (cur : UInt8) : (List.take 1 (cur :: rest))[0]! = cur := by simp

end script

example : Code.script_parse [3, 0x4d, 0] = none := by decide +kernel
example : Code.script_parse [2, 1, 7, 9] = some ([.data [7]], [9]) := by decide +kernel
example : Code.serialize [.op 0xac, .data [1, 2]] = some [4, 0xac, 2, 1, 2] := by decide +kernel

example : Code.encode_varint 252 = some [252] := by decide +kernel
example : Code.encode_varint 253 = some [253, 253, 0] := by decide +kernel
example : Code.encode_varint 65536 = some [254, 0, 0, 1, 0] := by decide +kernel
example : Code.encode_varint (2 ^ 64) = none := by decide +kernel
example : Code.int_to_little_endian 256 1 = none := by decide +kernel

end BtcHd.Translated
