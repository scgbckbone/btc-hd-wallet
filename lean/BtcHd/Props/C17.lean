/-
C17 — Path strings: format/parse round trip, marker equivalence, lookup by path is
iterated child derivation, malformed paths are rejected, and the depth clause
(known finding K1: components after the fifth are silently ignored).

Property theorems only (helper lemmas are in `Lemmas/Path.lean`).  The model
(`Model/Path.lean`, `Model/Text.lean`) mirrors `Bip32Path` in `wallet_utils.py`;
strings are `List Char`, a raised exception is `none`.
-/
import BtcHd.Lemmas.Path
import BtcHd.Lemmas.Bip32
import BtcHd.Model.Wallet

namespace BtcHd.C17
open BtcHd Text Path Bip32

variable {Pt : Type}

/-- `int(str(n)) == n`, and `str(n)` passes the strict ASCII-digit check -/
theorem parseDec_natToDec (n : Nat) : Text.parseDec (natToDec n) = some n :=
  Text.parseDec_natToDec n

/-- `"/".join(parts).split("/") == parts` when no part contains a `/` -/
theorem splitOn_join {parts : List (List Char)} (hno : ∀ p ∈ parts, '/' ∉ p) (hne : parts ≠ []) :
    splitOn '/' (join ['/'] parts) = parts :=
  splitOn_join_sep hno hne

example : splitOn '/' (join ['/'] [['m'], ['4', '4', '\''], [], ['0']]) =
    [['m'], ['4', '4', '\''], [], ['0']] := by decide +kernel

/-- `"/".join(s.split("/")) == s` for every string, and no piece contains a `/` -/
theorem join_splitOn (s : List Char) :
    join ['/'] (splitOn '/' s) = s ∧ ∀ p ∈ splitOn '/' s, '/' ∉ p :=
  ⟨Text.join_splitOn '/' s, fun _ h => sep_not_mem_of_mem_splitOn h⟩

/-- `convert_hardened(repr_hardened(i)) == i` for every index below 2^32 -/
theorem convertHardened_reprHardened {i : Nat} (hi : i < 2 ^ 32) :
    convertHardened (reprHardened i) = some i :=
  Path.convertHardened_reprHardened hi

example : convertHardened (reprHardened (2 ^ 31 + 44)) = some (2 ^ 31 + 44) :=
  convertHardened_reprHardened (by decide)

/-- exactly which components `convert_hardened` accepts, and with which value: a
non-empty ASCII-digit string below 2^31 followed by `'` or `h` (value + 2^31), or a
non-empty ASCII-digit string below 2^32 (its value) -/
theorem convertHardened_spec {c : List Char} {v : Nat} :
    convertHardened c = some v ↔
      (∃ d, (c = d ++ ['\''] ∨ c = d ++ ['h']) ∧ (d ≠ [] ∧ ∀ ch ∈ d, ch.isDigit = true)
          ∧ decVal d < 2 ^ 31 ∧ v = decVal d + 2 ^ 31)
      ∨ ((c ≠ [] ∧ ∀ ch ∈ c, ch.isDigit = true) ∧ decVal c < 2 ^ 32 ∧ v = decVal c) :=
  convertHardened_eq_some_iff

/-! ### format/parse round trip -/

/-- parsing the printed form of a path of at most five 32-bit levels gives the path back -/
theorem parse_format {p : Path.Path} (hlen : p.levels.length ≤ 5)
    (hr : ∀ i ∈ p.levels, i < 2 ^ 32) : Path.parse (Path.format p) = some p := by
  have := parse_join_of_convert (root := if p.priv then ['m'] else ['M'])
    (comps := p.levels.map reprHardened) (is := p.levels) (by cases p.priv <;> simp)
    (by rwa [List.length_map]) (by
      rw [List.map_map]
      exact List.map_congr_left fun i hi => convertHardened_reprHardened (hr i hi))
  obtain ⟨lv, _ | _⟩ := p <;> exact this

example : Path.parse (Path.format ⟨[2 ^ 31 + 84, 2 ^ 31, 2 ^ 31, 0, 7], true⟩) =
    some ⟨[2 ^ 31 + 84, 2 ^ 31, 2 ^ 31, 0, 7], true⟩ :=
  parse_format (by decide) (by decide)

-- both hypotheses of `parse_format` are needed: a level 2^32 prints as `2147483648'`,
-- which is out of range; a sixth level is printed but dropped when reading back (K1)
example : Path.parse (Path.format ⟨[2 ^ 32], true⟩) = none := by decide +kernel
example : Path.parse (Path.format ⟨[0, 0, 0, 0, 0, 7], true⟩) = some ⟨[0, 0, 0, 0, 0], true⟩ := by
  decide +kernel

/-- which strings `Bip32Path.parse` accepts, and with which result; the root piece `m`/`M` fixes `priv` -/
theorem parse_iff {s : List Char} {p : Path.Path} :
    Path.parse s = some p ↔
      ∃ root comps, splitOn '/' s = root :: comps ∧ (root = ['m'] ∨ root = ['M']) ∧
        p.priv = decide (root = ['m']) ∧ p.levels.length ≤ 5 ∧
        (comps.take p.levels.length).map convertHardened = p.levels.map some ∧
        ∀ c ∈ (comps.take 5).drop p.levels.length, c = [] := by
  obtain ⟨root, comps, hs⟩ := List.exists_cons_of_ne_nil (splitOn_ne_nil '/' s)
  rw [parse_of_splitOn hs, parseParts_eq_some_iff, hs]
  constructor
  · exact fun h => ⟨root, comps, rfl, h⟩
  · rintro ⟨_, _, e, h⟩; cases e; exact h

theorem parse_levels_bound {s : List Char} {p : Path.Path} (h : Path.parse s = some p) :
    p.levels.length ≤ 5 ∧ ∀ i ∈ p.levels, i < 2 ^ 32 := by
  obtain ⟨root, comps, _, _, _, hlen, h1, _⟩ := parse_iff.mp h
  refine ⟨hlen, fun i hi => ?_⟩
  obtain ⟨c, _, hc⟩ := Basics.mem_of_mapM_eq_some (Basics.mapM_eq_some_iff.mpr h1) hi
  exact convertHardened_lt hc

/-- whatever `parse` returns prints to a string that parses to the same path -/
theorem format_parse {s : List Char} {p : Path.Path} (h : Path.parse s = some p) :
    Path.parse (Path.format p) = some p :=
  parse_format (parse_levels_bound h).1 (parse_levels_bound h).2

example : Path.parse ['M', '/', '4', '9', 'h', '/', '1', '\'', '/'] =
    some ⟨[2 ^ 31 + 49, 2 ^ 31 + 1], false⟩ := by decide +kernel

/-! ### marker equivalence -/

/-- on one component a final `h` and a final `'` mean the same -/
theorem marker_equiv_component (d : List Char) :
    convertHardened (d ++ ['h']) = convertHardened (d ++ ['\'']) :=
  convertHardened_h_eq_tick d

/-- on whole path strings: respelling the final hardened marker (`h` or `'`) of any of
the components does not change the result of `parse` (be it a path or an error) -/
theorem marker_equiv (root : List Char) {comps comps' : List (List Char)}
    (hrel : List.Forall₂ (fun c c' => c = c' ∨ ∃ d, (c = d ++ ['h'] ∨ c = d ++ ['\''])
      ∧ (c' = d ++ ['h'] ∨ c' = d ++ ['\''])) comps comps')
    (hroot : '/' ∉ root) (hno : ∀ c ∈ comps, '/' ∉ c) :
    Path.parse (join ['/'] (root :: comps)) = Path.parse (join ['/'] (root :: comps')) := by
  have hrel' : List.Forall₂ SameUpToMarker comps comps' := hrel
  rw [parse_join hroot hno, parse_join hroot (forall₂_slash hrel' hno)]
  exact parseParts_congr hrel' root

/-- all components spelled with `h` against all spelled with `'` -/
theorem marker_equiv_all (root : List Char) (ds : List (List Char))
    (hroot : '/' ∉ root) (hno : ∀ d ∈ ds, '/' ∉ d) :
    Path.parse (join ['/'] (root :: ds.map (· ++ ['h']))) =
      Path.parse (join ['/'] (root :: ds.map (· ++ ['\'']))) := by
  refine marker_equiv root ?_ hroot ?_
  · rw [List.forall₂_map_left_iff, List.forall₂_map_right_iff, List.forall₂_same]
    exact fun d _ => Or.inr ⟨d, Or.inl rfl, Or.inr rfl⟩
  · intro c hc
    obtain ⟨d, hd, rfl⟩ := List.mem_map.mp hc
    simpa using hno d hd

example : Path.parse ['m', '/', '4', '4', 'h', '/', '0', 'h', '/', '5'] =
    Path.parse ['m', '/', '4', '4', '\'', '/', '0', 'h', '/', '5'] :=
  marker_equiv ['m'] (comps := [['4', '4', 'h'], ['0', 'h'], ['5']])
    (comps' := [['4', '4', '\''], ['0', 'h'], ['5']])
    (.cons (Or.inr ⟨['4', '4'], Or.inl rfl, Or.inr rfl⟩)
      (.cons (Or.inl rfl) (.cons (Or.inl rfl) .nil)))
    (by decide) (by decide)

/-! ### soundness of `parse`, and malformed paths are rejected -/

/-- soundness: the levels `parse` returns are the conversions of the first components, in order, and every component
it skips among the first five is empty -/
theorem parse_sound {s : List Char} {p : Path.Path} (h : Path.parse s = some p) :
    ∃ root comps, splitOn '/' s = root :: comps ∧ (root = ['m'] ∨ root = ['M']) ∧
      p.priv = decide (root = ['m']) ∧
      (comps.take p.levels.length).map convertHardened = p.levels.map some ∧
      ∀ c ∈ (comps.take 5).drop p.levels.length, c = [] := by
  obtain ⟨root, comps, hs, hr, hp, _, h1, h2⟩ := parse_iff.mp h
  exact ⟨root, comps, hs, hr, hp, h1, h2⟩

/-- wrong root marker: if the first piece is neither `m` nor `M`, `parse` raises -/
theorem parse_rejects_wrong_root {s : List Char}
    (h1 : (splitOn '/' s).head? ≠ some ['m']) (h2 : (splitOn '/' s).head? ≠ some ['M']) :
    Path.parse s = none := by
  refine Option.eq_none_iff_forall_ne_some.mpr fun p hp => ?_
  obtain ⟨root, comps, hs, hr, _⟩ := parse_iff.mp hp
  rw [hs] at h1 h2
  rcases hr with rfl | rfl
  exacts [h1 rfl, h2 rfl]

example : Path.parse ['x', '/', '0'] = none := parse_rejects_wrong_root (by decide) (by decide)
example : Path.parse [] = none := parse_rejects_wrong_root (by decide) (by decide)
example : Path.parse ['/', 'm', '/', '0'] = none :=
  parse_rejects_wrong_root (by decide) (by decide)

/-- non-decimal component: if some non-empty component `c` among the first five is not
a non-empty string of ASCII digits, neither as it stands nor after dropping one final
`'` or `h`, then `parse` raises -/
theorem parse_rejects_nondecimal {s root c : List Char} {comps : List (List Char)}
    (hs : splitOn '/' s = root :: comps) (hc : c ∈ comps.take 5) (hne : c ≠ [])
    (hbad : ∀ d, (c = d ∨ c = d ++ ['\''] ∨ c = d ++ ['h']) →
      ¬ (d ≠ [] ∧ ∀ ch ∈ d, ch.isDigit = true)) :
    Path.parse s = none := by
  rw [parse_of_splitOn hs]
  refine parseParts_eq_none hc hne fun v hv => ?_
  rcases convertHardened_eq_some_iff.mp hv with ⟨d, hd, hdec, _⟩ | ⟨hdec, _⟩
  · exact hbad d (Or.inr hd) hdec
  · exact hbad c (Or.inl rfl) hdec

example : Path.parse ['m', '/', '4', '4', '\'', '/', '0', 'x', '0'] = none :=
  parse_rejects_nondecimal (root := ['m']) (comps := [['4', '4', '\''], ['0', 'x', '0']])
    (c := ['0', 'x', '0']) (by decide) (by decide) (by decide) (by
    intro d hd
    rcases hd with rfl | hd | hd
    · exact fun h => absurd (h.2 'x' (by decide)) (by decide)
    · exact absurd (congrArg List.getLast? hd) (by simp)
    · exact absurd (congrArg List.getLast? hd) (by simp))

/-- empty inner component: an empty component followed (within the first five) by a
non-empty one makes `parse` raise -/
theorem parse_rejects_empty_inner {s root c : List Char} {comps : List (List Char)} {i j : Nat}
    (hs : splitOn '/' s = root :: comps) (hij : i < j) (hj : j < 5)
    (hi : comps[i]? = some []) (hc : comps[j]? = some c) (hne : c ≠ []) :
    Path.parse s = none := by
  refine Option.eq_none_iff_forall_ne_some.mpr fun p hp => hne ?_
  rw [parse_of_splitOn hs] at hp
  obtain ⟨_, _, _, h1, h2⟩ := parseParts_eq_some_iff.mp hp
  -- the empty component does not convert, so it lies beyond the levels; `c` comes later still
  have hin : p.levels.length ≤ i := by
    by_contra hlt
    have := congrArg (·[i]?) h1
    simp [Nat.lt_of_not_le hlt, hi, convertHardened_nil] at this
  refine h2 c (List.mem_iff_getElem?.mpr ⟨j - p.levels.length, ?_⟩)
  rw [List.getElem?_drop, List.getElem?_take,
    show p.levels.length + (j - p.levels.length) = j by omega, if_pos hj, hc]

example : Path.parse ['m', '/', '4', '4', '\'', '/', '/', '0'] = none :=
  parse_rejects_empty_inner (root := ['m']) (comps := [['4', '4', '\''], [], ['0']])
    (i := 1) (j := 2) (c := ['0']) (by decide) (by decide) (by decide)
    (by decide) (by decide) (by decide)

/-- out of range: a component among the first five that is unmarked with decimal value
≥ 2^32, or marked (`'`/`h`) with decimal value ≥ 2^31, makes `parse` raise -/
theorem parse_rejects_out_of_range {s root c : List Char} {comps : List (List Char)}
    (hs : splitOn '/' s = root :: comps) (hc : c ∈ comps.take 5)
    (hbig : (c.getLast? ≠ some '\'' ∧ c.getLast? ≠ some 'h' ∧ 2 ^ 32 ≤ decVal c) ∨
      ∃ d, (c = d ++ ['\''] ∨ c = d ++ ['h']) ∧ 2 ^ 31 ≤ decVal d) :
    Path.parse s = none := by
  rw [parse_of_splitOn hs]
  rcases hbig with ⟨h1, h2, hge⟩ | ⟨d, hd, hge⟩
  · have hne : c ≠ [] := by rintro rfl; exact absurd hge (by decide)
    refine parseParts_eq_none hc hne fun v hv => ?_
    have hl := List.getLast?_eq_some_getLast hne
    rw [convertHardened_unmarked hl (fun e => h1 (e ▸ hl)) fun e => h2 (e ▸ hl)] at hv
    have := ((parseDec_bind_eq_some (k := 0)).mp hv).2.1
    omega
  · obtain ⟨m, hm, rfl⟩ : ∃ m, (m = '\'' ∨ m = 'h') ∧ c = d ++ [m] := by
      rcases hd with rfl | rfl
      exacts [⟨_, Or.inl rfl, rfl⟩, ⟨_, Or.inr rfl, rfl⟩]
    refine parseParts_eq_none hc (by simp) fun v hv => ?_
    rw [convertHardened_marked hm] at hv
    have := (parseDec_bind_eq_some.mp hv).2.1
    omega

example : Path.parse ['m', '/', '4', '2', '9', '4', '9', '6', '7', '2', '9', '6'] = none :=
  parse_rejects_out_of_range (root := ['m'])
    (comps := [['4', '2', '9', '4', '9', '6', '7', '2', '9', '6']])
    (c := ['4', '2', '9', '4', '9', '6', '7', '2', '9', '6'])
    (by decide) (by decide) (Or.inl (by decide))

example : Path.parse ['m', '/', '2', '1', '4', '7', '4', '8', '3', '6', '4', '8', 'h'] = none :=
  parse_rejects_out_of_range (root := ['m'])
    (comps := [['2', '1', '4', '7', '4', '8', '3', '6', '4', '8', 'h']])
    (c := ['2', '1', '4', '7', '4', '8', '3', '6', '4', '8', 'h'])
    (by decide) (by decide)
    (Or.inr ⟨['2', '1', '4', '7', '4', '8', '3', '6', '4', '8'], Or.inr rfl, by decide⟩)

/-! ### lookup by path string is iterated child derivation -/

/-- `by_path(s)` parses `s` and derives the parsed levels from the master node -/
theorem byPath_fold (P : Prims Pt) (w : Wallet.Wallet) (s : List Char) :
    Wallet.byPath P w s = (Path.parse s).bind fun p => Bip32.derivePath P w.master p.levels :=
  rfl

theorem derivePath_cons (P : Prims Pt) (nd : Node) (i : Nat) (is : List Nat) :
    derivePath P nd (i :: is) = (ckd P nd i).bind (derivePath P · is) :=
  rfl

theorem derivePath_append (P : Prims Pt) (nd : Node) (a b : List Nat) :
    derivePath P nd (a ++ b) = (derivePath P nd a).bind (derivePath P · b) :=
  Bip32.derivePath_append P nd a b

/-- `derive_path` applies `ckd` to each index in order (a monadic left fold) -/
theorem derivePath_eq_foldlM (P : Prims Pt) (nd : Node) (is : List Nat) :
    derivePath P nd is = is.foldlM (ckd P) nd :=
  Bip32.derivePath_eq_foldlM P nd is

/-- `by_path(s)` is `ckd` applied to each parsed level in order from the master node, and
it raises whenever `parse` raises (no key is derived from a rejected string) -/
theorem byPath_eq_foldlM (P : Prims Pt) (w : Wallet.Wallet) (s : List Char) :
    (∀ p, Path.parse s = some p → Wallet.byPath P w s = p.levels.foldlM (ckd P) w.master) ∧
    (Path.parse s = none → Wallet.byPath P w s = none) := by
  refine ⟨fun p hp => ?_, fun hn => ?_⟩
  · rw [byPath_fold, hp, Option.bind_some, derivePath_eq_foldlM]
  · rw [byPath_fold, hn, Option.bind_none]

/-- `by_path` on a well-formed string, in terms of its components -/
theorem byPath_join (P : Prims Pt) (w : Wallet.Wallet) {root : List Char}
    {comps : List (List Char)} {is : List Nat} (hroot : root = ['m'] ∨ root = ['M'])
    (hlen : comps.length ≤ 5) (hconv : comps.map convertHardened = is.map some) :
    Wallet.byPath P w (join ['/'] (root :: comps)) = is.foldlM (ckd P) w.master := by
  rw [byPath_fold, parse_join_of_convert hroot hlen hconv, Option.bind_some, derivePath_eq_foldlM]

example (P : Prims Pt) (w : Wallet.Wallet) :
    Wallet.byPath P w ['m', '/', '8', '4', '\'', '/', '0', 'h', '/', '7'] =
      [2 ^ 31 + 84, 2 ^ 31, 7].foldlM (ckd P) w.master :=
  byPath_join P w (root := ['m']) (comps := [['8', '4', '\''], ['0', 'h'], ['7']])
    (Or.inl rfl) (by decide) (by decide)

/-- the derived node keeps the class of the start node and its path is extended by the
indexes, so it prints as the start mark followed by the printed indexes -/
theorem nodeRepr_derive_general {P : Prims Pt} {nd c : Node} {is : List Nat}
    (h : derivePath P nd is = some c) :
    nodeRepr c = Text.join ['/']
      ((if nd.isPrv then ['m'] else ['M']) :: (nd.path ++ is).map reprHardened) :=
  nodeRepr_of_derive h

/-- a node derived from a root object prints as its mark and the printed indexes -/
theorem nodeRepr_derive {P : Prims Pt} {nd c : Node} {is : List Nat}
    (h : derivePath P nd is = some c) (hroot : nd.path = []) :
    nodeRepr c = Text.join ['/'] ((if nd.isPrv then ['m'] else ['M']) :: is.map reprHardened) := by
  rw [nodeRepr_derive_general h, hroot, List.nil_append]

example (P : Prims Pt) (nd : Node) (hroot : nd.path = []) (hprv : nd.isPrv = true) :
    nodeRepr nd = ['m'] := by
  have := nodeRepr_derive (P := P) (nd := nd) (c := nd) (is := []) rfl hroot
  rw [hprv] at this; exact this

/-- the node found by `by_path(s)` prints as the canonical form of the parsed path
(with the mark of the wallet's master node) -/
theorem nodeRepr_byPath {P : Prims Pt} {w : Wallet.Wallet} {s : List Char} {p : Path.Path}
    {c : Node} (hp : Path.parse s = some p) (h : Wallet.byPath P w s = some c)
    (hroot : w.master.path = []) :
    nodeRepr c = Path.format ⟨p.levels, w.master.isPrv⟩ := by
  rw [byPath_fold, hp, Option.bind_some] at h
  rw [nodeRepr_derive h hroot]
  rfl

/-! ### the depth clause (known finding K1) -/

/-- K1: the depth clause is false for the code as it is.  `"m/0/0/0/0/0/7"` has six
components but parses to the five-level path `m/0/0/0/0/0`: the sixth component is
silently dropped. -/
theorem parse_deep_fails :
    ∃ s p, Path.parse s = some p ∧
      ((splitOn '/' s).tail.filter (fun c => c ≠ [])).length > p.levels.length :=
  ⟨['m', '/', '0', '/', '0', '/', '0', '/', '0', '/', '0', '/', '7'], ⟨[0, 0, 0, 0, 0], true⟩,
    by decide +kernel, by decide +kernel⟩

/-- K1 in general: `parse` never looks past the fifth component; two strings with the
same root and the same first five components get the same result -/
theorem parse_depends_on_first_five {s s' root : List Char} {comps comps' : List (List Char)}
    (hs : splitOn '/' s = root :: comps) (hs' : splitOn '/' s' = root :: comps')
    (h5 : comps.take 5 = comps'.take 5) : Path.parse s = Path.parse s' := by
  rw [parse_of_splitOn hs, parse_of_splitOn hs', ← parseParts_take root comps,
    ← parseParts_take root comps', h5]

example : Path.parse ['m', '/', '0', '/', '0', '/', '0', '/', '0', '/', '0', '/', '7'] =
    Path.parse ['m', '/', '0', '/', '0', '/', '0', '/', '0', '/', '0', '/', '9', '/', 'x'] :=
  parse_depends_on_first_five (root := ['m'])
    (comps := [['0'], ['0'], ['0'], ['0'], ['0'], ['7']])
    (comps' := [['0'], ['0'], ['0'], ['0'], ['0'], ['9'], ['x']]) (by decide) (by decide) (by decide)

/-- Full statement (false, see `parse_deep_fails`): "if `parse s = some p` then
`p.levels.length` is the number of non-empty components of `s`", i.e. paths deeper than
five levels are honoured in full or rejected.  Proved here under the extra hypothesis
that `s` has at most five components (at most six pieces). -/
theorem parse_honours_all_partial {s : List Char} {p : Path.Path}
    (hlen : (splitOn '/' s).length ≤ 6) (h : Path.parse s = some p) :
    p.levels.length = ((splitOn '/' s).tail.filter (fun c => c ≠ [])).length := by
  obtain ⟨root, comps, hs, _, _, _, h1, h2⟩ := parse_iff.mp h
  rw [hs, List.length_cons] at hlen
  rw [List.take_of_length_le (by omega)] at h2
  -- the components that convert are non-empty and survive the filter, the rest is empty
  have hA : (comps.take p.levels.length).filter (fun c => c ≠ []) = comps.take p.levels.length := by
    refine List.filter_eq_self.mpr fun c hc => ?_
    obtain ⟨v, _, e⟩ := List.mem_map.mp (h1 ▸ List.mem_map_of_mem (f := convertHardened) hc)
    simpa using convertHardened_ne_nil e.symm
  have hB : (comps.drop p.levels.length).filter (fun c => c ≠ []) = [] :=
    List.filter_eq_nil_iff.mpr fun c hc => by simpa using h2 c hc
  rw [hs, List.tail_cons, ← List.take_append_drop p.levels.length comps, List.filter_append, hA, hB,
    List.append_nil]
  simpa using (congrArg List.length h1).symm

example : (splitOn '/' ['m', '/', '0', '/', '1', 'h', '/']).length ≤ 6 ∧
    Path.parse ['m', '/', '0', '/', '1', 'h', '/'] = some ⟨[0, 2 ^ 31 + 1], true⟩ := by decide +kernel

end BtcHd.C17
