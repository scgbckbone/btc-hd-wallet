/-
C11 (codec half) — Bech32 / Bech32m segwit addresses round-trip, use the right
checksum constant for the witness version, and the decoder applies every
syntactic rejection rule of BIP 173 / BIP 350.

Property theorems only (the legality predicate `Legal`, `specFor` and the lemmas are in
`Lemmas/Bech32.lean`, those on `convertbits` in `Lemmas/Convertbits.lean`).  The model
(`Model/Bech32.lean`) mirrors all of `bech32.py`; `none` stands for both a `None` result and an
exception.  The error-detection half of C11 (BCH distance) is in `Props/C11b.lean` (symbols) and
`Props/C11c.lean` (strings).
-/
import BtcHd.Lemmas.Bech32

namespace BtcHd.C11
open BtcHd Bech32 Digits

/-- the character set in the source is the BIP 173 one -/
theorem charset_is_bip173 : charset = "qpzry9x8gf2tvdw0s3jn54khce6mua7l".toList := by
  -- a string literal is `String.ofList` of its characters: here and below `toList` of one is
  -- rewritten by that theorem, so that the kernel does not run the UTF-8 decoder
  rw [String.toList_ofList]
  rfl

/-- 32 distinct characters, no separator `1`, none of the look-alikes `b i o`, and only
lower-case letters and digits -/
theorem charset_wellformed :
    charset.length = 32 ∧ charset.Nodup ∧ '1' ∉ charset ∧ 'b' ∉ charset ∧ 'i' ∉ charset ∧
      'o' ∉ charset ∧ ∀ c ∈ charset, ('a' ≤ c ∧ c ≤ 'z') ∨ ('0' ≤ c ∧ c ≤ '9') :=
  ⟨charset_length, charset_nodup, by decide +kernel⟩

/-- the Bech32m constant and the five generator words are those of BIP 350 / BIP 173 -/
theorem consts :
    bech32mConst = 0x2bc830a3 ∧
      Generated.polymodGen = [0x3b6a57b2, 0x26508e6d, 0x1ea119fa, 0x3d4233dd, 0x2a1462b3] := by
  decide

/-- the two checksum constants differ, so a valid string has exactly one encoding -/
theorem consts_distinct : constOf .bech32 ≠ constOf .bech32m := by decide

/-- the symbol fed into a step is simply XOR-ed into the result -/
theorem polymodStep_xor (c v : Nat) : polymodStep c v = polymodStep c 0 ^^^ v :=
  Bech32.polymodStep_xor c v

/-- the checksum register stays within 30 bits -/
theorem polymodStep_lt {c v : Nat} (_hc : c < 2 ^ 30) (hv : v < 2 ^ 30) : polymodStep c v < 2 ^ 30 :=
  Bech32.polymodStep_lt hv

example : (1 : Nat) < 2 ^ 30 ∧ (31 : Nat) < 2 ^ 30 := by decide

/-- XOR-ing a 25-bit value into the register before a step equals XOR-ing its 5-bit shift after
the step (no feedback term is affected) -/
theorem polymodStep_xor_low {c d : Nat} (v : Nat) (hd : d < 2 ^ 25) :
    polymodStep (c ^^^ d) v = polymodStep c v ^^^ (d <<< 5) :=
  Bech32.polymodStep_xor_low v hd

example : (0x1ffffff : Nat) < 2 ^ 25 := by decide

/-- the checksum consists of six 5-bit symbols -/
theorem createChecksum_symbols (hrp : List Char) (data : List Nat) (spec : Encoding) :
    (createChecksum hrp data spec).length = 6 ∧ ∀ d ∈ createChecksum hrp data spec, d < 32 :=
  ⟨createChecksum_length hrp data spec, createChecksum_lt hrp data spec⟩

/-- appending the created checksum makes the checksum polynomial equal the constant of the
chosen encoding (for any prefix, even a non-ASCII one) -/
theorem checksum_polymod (hrp : List Char) (data : List Nat) (spec : Encoding)
    (hd : ∀ d ∈ data, d < 32) :
    polymod (hrpExpand hrp ++ (data ++ createChecksum hrp data spec)) = constOf spec :=
  polymod_checksum hrp data spec hd

/-- data followed by its created checksum verifies, and verifies as the encoding it was created
for (Bech32 and Bech32m alike) -/
theorem checksum_valid (hrp : List Char) (data : List Nat) (spec : Encoding)
    (hd : ∀ d ∈ data, d < 32) :
    verifyChecksum hrp (data ++ createChecksum hrp data spec) = some spec :=
  Bech32.checksum_valid hrp data spec hd

example : ∀ d ∈ [0, 14, 20, 15, 7, 13, 26, 0, 25, 18, 6, 11, 13, 8, 21, 4, 20, 3, 17, 2, 29, 3], d < 32 := by
  decide

/-- regrouping bytes into 5-bit symbols (zero-padded) and back (no padding) is the identity, for
every byte string; the symbol count is `⌈8·len / 5⌉` -/
theorem convertbits_8_5_5_8 (bs : Bytes) :
    ∃ five, convertbits (bs.map (·.toNat)) 8 5 true = some five ∧ (∀ d ∈ five, d < 32) ∧
      five.length = (bs.length * 8 + 4) / 5 ∧
      convertbits five 5 8 false = some (bs.map (·.toNat)) :=
  Bech32.convertbits_8_5_5_8 bs

/-- in terms of the loop's final state `(acc, bits, _)`: 5 or more left-over bits, or left-over
bits that are not all zero, make the un-padded 5→8 regrouping fail -/
theorem convertbits_rejects_padding (data : List Nat) (hd : ∀ d ∈ data, d < 32) :
    let st := data.foldl (convStep 5 8) (0, 0, [])
    (st.2.1 ≥ 5 ∨ (st.1 <<< (8 - st.2.1)) &&& 255 ≠ 0) → convertbits data 5 8 false = none := by
  intro st h
  rw [convertbits_of_lt (f := 5) 8 false hd]
  exact if_pos h

/-- the same rule without reference to the loop state: the result is `none` exactly when the number
of left-over bits `5·n mod 8` is 5 or more, or the left-over low bits of the last symbol are not
all zero -/
theorem convertbits_rejects_padding_iff (data : List Nat) (hd : ∀ d ∈ data, d < 32) :
    convertbits data 5 8 false = none ↔
      (data.length * 5 % 8 ≥ 5 ∨
        ∃ d, data.getLast? = some d ∧ d % 2 ^ (data.length * 5 % 8) ≠ 0) :=
  convertbits_unpad_eq_none_iff (f := 5) (t := 8) (by decide) data hd

-- over-long padding (one symbol = 5 left-over bits) and non-zero padding (low bit of `1`, 2 left-over bits)
example : convertbits [0] 5 8 false = none ∧ convertbits [31, 1] 5 8 false = none := by decide

/-- a symbol outside 0..31 makes the 5→8 regrouping fail -/
theorem convertbits_rejects_big_symbol (data : List Nat) (pad : Bool) {d : Nat} (hd : d ∈ data)
    (h : 32 ≤ d) : convertbits data 5 8 pad = none :=
  convertbits_of_not_lt 8 pad hd (Nat.not_lt_of_le h)

example : (32 : Nat) ∈ [1, 32] ∧ 32 ≤ 32 := by decide

/-! ### round trip on the legal inputs, no address for the others -/

/-- every legal (prefix, version, program) is encoded, and the address decodes back to the same
version and program -/
theorem encode_decode {hrp : List Char} {v : Nat} {prog : Bytes} (h : Legal hrp v prog) :
    ∃ s, encode hrp v prog = some s ∧ decode hrp s = some (v, prog.map (·.toNat)) := by
  obtain ⟨five, -, hlt, hlen, h4, he⟩ := encode_eq_ite hrp v prog
  have hd : ∀ d ∈ v :: five, d < 32 := List.forall_mem_cons.mpr ⟨by have := h.1; omega, hlt⟩
  exact ⟨_, by rw [he, if_pos h], (decode_addr_iff hd hlen h4).mpr ⟨h, rfl⟩⟩

example : Legal "bc".toList 0 (List.replicate 20 7) ∧ Legal "tb".toList 1 (List.replicate 32 255) ∧
    Legal "bc".toList 16 [1, 2] ∧ Legal "a1b".toList 2 (List.replicate 40 0) := by
  repeat rw [String.toList_ofList]
  decide

/-- an illegal combination — bad version, bad program length, bad prefix or an over-long result —
yields no address -/
theorem encode_none_of_illegal {hrp : List Char} {v : Nat} {prog : Bytes} (h : ¬ Legal hrp v prog) :
    encode hrp v prog = none := by
  obtain ⟨_, -, -, -, -, he⟩ := encode_eq_ite hrp v prog
  rw [he, if_neg h]

example : ¬ Legal "bc".toList 17 (List.replicate 20 0) ∧ ¬ Legal "bc".toList 0 (List.replicate 21 0) ∧
    ¬ Legal "bc".toList 1 [0] ∧ ¬ Legal "bc".toList 1 (List.replicate 41 0) ∧
    ¬ Legal "Bc".toList 1 (List.replicate 20 0) ∧ ¬ Legal [] 1 (List.replicate 20 0) := by
  repeat rw [String.toList_ofList]
  decide

/-- `encode` succeeds exactly on the legal inputs -/
theorem encode_isSome_iff (hrp : List Char) (v : Nat) (prog : Bytes) :
    (encode hrp v prog).isSome ↔ Legal hrp v prog := by
  obtain ⟨_, -, -, -, -, he⟩ := encode_eq_ite hrp v prog
  rw [he]
  split <;> simp [*]

theorem encode_none_of_version {hrp : List Char} {v : Nat} {prog : Bytes} (h : 16 < v) :
    encode hrp v prog = none :=
  encode_none_of_illegal (fun hl => by have := hl.1; omega)

theorem encode_none_of_v0_length {hrp : List Char} {prog : Bytes} (h20 : prog.length ≠ 20)
    (h32 : prog.length ≠ 32) : encode hrp 0 prog = none :=
  encode_none_of_illegal (fun hl => by have := hl.2.2.2.1 rfl; omega)

theorem encode_none_of_length {hrp : List Char} {v : Nat} {prog : Bytes}
    (h : prog.length < 2 ∨ 40 < prog.length) : encode hrp v prog = none :=
  encode_none_of_illegal (fun hl => by have := hl.2.1; have := hl.2.2.1; omega)

example : (17 : Nat) > 16 ∧ ([1, 2, 3] : Bytes).length ≠ 20 ∧ ([1, 2, 3] : Bytes).length ≠ 32 ∧
    (([1] : Bytes).length < 2 ∨ 40 < ([1] : Bytes).length) := by decide

/-- whatever `encode` returns decodes back to exactly the version and program that went in -/
theorem encode_some_roundtrip {hrp : List Char} {v : Nat} {prog : Bytes} {s : List Char}
    (h : encode hrp v prog = some s) : decode hrp s = some (v, prog.map (·.toNat)) :=
  (legal_of_encode_some h).2.1

theorem encode_some_decodes {hrp : List Char} {v : Nat} {prog : Bytes} {s : List Char}
    (h : encode hrp v prog = some s) : decode hrp s ≠ none := by
  rw [encode_some_roundtrip h]; exact Option.some_ne_none _

private def progEx : Bytes :=
  [0x75, 0x1e, 0x76, 0xe8, 0x19, 0x91, 0x96, 0xd4, 0x54, 0x94, 0x1c, 0x45, 0xd1, 0xb3, 0xa3, 0x23,
    0xf1, 0x43, 0x3b, 0xd6]

-- the BIP 173 test vector
example : encode "bc".toList 0 progEx = some "bc1qw508d6qejxtdg4y5r3zarvary0c5xw7kv8f3t4".toList := by
  repeat rw [String.toList_ofList]
  decide +kernel

/-- `encode` is injective in (version, program) for a fixed prefix -/
theorem encode_injective {hrp : List Char} {v v' : Nat} {prog prog' : Bytes} {s : List Char}
    (h : encode hrp v prog = some s) (h' : encode hrp v' prog' = some s) : v = v' ∧ prog = prog' := by
  have e := (encode_some_roundtrip h).symm.trans (encode_some_roundtrip h')
  simp only [Option.some.injEq, Prod.mk.injEq] at e
  refine ⟨e.1, ?_⟩
  exact List.map_injective_iff.mpr (fun a b hab => UInt8.toNat_inj.mp hab) e.2

/-! ### the checksum constant follows the witness version -/

/-- an address produced by `encode` parses as a Bech32 string for version 0 and as a Bech32m
string for versions 1–16 (its data part verifies against constant 1, resp. `0x2bc830a3`), with
the given prefix and the version as first data symbol -/
theorem encode_constant {hrp : List Char} {v : Nat} {prog : Bytes} {s : List Char}
    (h : encode hrp v prog = some s) :
    ∃ five, bech32Decode s = some (hrp, v :: five, specFor v) :=
  (legal_of_encode_some h).2.2

/-- … and therefore the whole symbol string of the address has checksum polynomial 1 for version 0
and `bech32mConst` for versions 1–16 -/
theorem encode_constant_polymod {hrp : List Char} {v : Nat} {prog : Bytes} {s : List Char}
    (h : encode hrp v prog = some s) :
    ∃ syms, s = hrp ++ '1' :: syms.map chr ∧ (∀ d ∈ syms, d < 32) ∧
      polymod (hrpExpand hrp ++ syms) = (if v = 0 then 1 else bech32mConst) := by
  obtain ⟨syms, hs, hlt, -, hv, -⟩ := encode_some_symbols h
  refine ⟨syms, hs, hlt, ?_⟩
  rw [verifyChecksum_eq_some_iff.mp hv]
  unfold specFor
  split <;> rfl

/-! ### rejection rules of the decoder -/

/-- everything `bech32Decode` checks, read off a successful result -/
theorem bech32Decode_sound {s hrp : List Char} {data : List Nat} {spec : Encoding}
    (h : bech32Decode s = some (hrp, data, spec)) :
    (∀ c ∈ s, 33 ≤ c.toNat ∧ c.toNat ≤ 126) ∧
    ¬(s.any isUpperAscii = true ∧ s.any isLowerAscii = true) ∧ s.length ≤ 90 ∧
    ∃ dp, s.map toLowerAscii = hrp ++ '1' :: dp ∧ '1' ∉ dp ∧ hrp ≠ [] ∧ 6 ≤ dp.length ∧
      (∀ c ∈ dp, c ∈ charset) ∧ verifyChecksum hrp (dp.map (charset.idxOf ·)) = some spec ∧
      data = dropLastN 6 (dp.map (charset.idxOf ·)) :=
  bech32Decode_eq_some_iff.mp h

/-- everything `decode` checks, read off a successful result -/
theorem decode_sound {hrp s : List Char} {v : Nat} {prog : List Nat}
    (h : decode hrp s = some (v, prog)) :
    ∃ data spec, bech32Decode s = some (hrp, v :: data, spec) ∧
      convertbits data 5 8 false = some prog ∧ 2 ≤ prog.length ∧ prog.length ≤ 40 ∧ v ≤ 16 ∧
      (v = 0 → prog.length = 20 ∨ prog.length = 32) ∧ spec = specFor v :=
  decode_eq_some_iff.mp h

-- the upper-case BIP 173 vector is accepted under the lower-case prefix
example : decode "bc".toList "BC1QW508D6QEJXTDG4Y5R3ZARVARY0C5XW7KV8F3T4".toList
    = some (0, progEx.map (·.toNat)) := by
  repeat rw [String.toList_ofList]
  decide +kernel

private theorem decode_none_of {hrp s : List Char}
    (h : ∀ hrp' data spec, bech32Decode s ≠ some (hrp', data, spec)) : decode hrp s = none := by
  unfold decode
  cases hb : bech32Decode s with
  | none => rfl
  | some r => exact absurd hb (h r.1 r.2.1 r.2.2)

/-- what a successful `bech32Decode` has checked, for a string given with its split at the last `1` -/
private theorem bech32Decode_split {pre dp hrp : List Char} {data : List Nat} {spec : Encoding}
    (hn : '1' ∉ dp) (hb : bech32Decode (pre ++ '1' :: dp) = some (hrp, data, spec)) :
    pre ≠ [] ∧ 6 ≤ dp.length ∧ (∀ c ∈ dp, toLowerAscii c ∈ charset) ∧
      verifyChecksum (pre.map toLowerAscii) ((dp.map toLowerAscii).map (charset.idxOf ·)) = some spec := by
  obtain ⟨_, _, _, dp', hs, hn', hne, h6, hall, hv, _⟩ := bech32Decode_eq_some_iff.mp hb
  rw [List.map_append, List.map_cons, toLowerAscii_eq_one.mpr rfl] at hs
  obtain ⟨rfl, rfl⟩ := append_one_inj hs.symm hn' (mt one_mem_map_toLowerAscii.mp hn)
  exact ⟨by simpa using hne, by simpa using h6, List.forall_mem_map.mp hall, hv⟩

/-- … and what a successful `decode` has checked on top, when the result of `bech32Decode` is known -/
private theorem decode_none_of_cons {hrp hrp' s : List Char} {w : Nat} {data : List Nat}
    {spec : Encoding} (hb : bech32Decode s = some (hrp', w :: data, spec))
    (h : ∀ prog, convertbits data 5 8 false = some prog → w ≤ 16 →
      (w = 0 → prog.length = 20 ∨ prog.length = 32) → spec = specFor w → False) :
    decode hrp s = none := by
  rcases hd : decode hrp s with _ | ⟨v, prog⟩
  · rfl
  · obtain ⟨_, _, h1, hc, _, _, h16, h0, hs⟩ := decode_eq_some_iff.mp hd
    rw [hb] at h1
    obtain ⟨_, ⟨rfl, rfl⟩, rfl⟩ := h1
    exact (h _ hc h16 h0 hs).elim

/-- a string with both an upper-case and a lower-case letter is rejected -/
theorem decode_rejects_mixed_case {hrp s : List Char} (hu : s.any isUpperAscii = true)
    (hl : s.any isLowerAscii = true) : decode hrp s = none :=
  decode_none_of fun _ _ _ hb => (bech32Decode_eq_some_iff.mp hb).2.1 ⟨hu, hl⟩

example : let s := "bc1qw508d6qejxtdg4y5r3zarvary0c5xw7kv8f3T4".toList
    s.any isUpperAscii = true ∧ s.any isLowerAscii = true := by
  rw [String.toList_ofList]
  decide

theorem decode_rejects_long {hrp s : List Char} (h : s.length > 90) : decode hrp s = none :=
  decode_none_of fun _ _ _ hb => by have := (bech32Decode_eq_some_iff.mp hb).2.2.1; omega

example : (List.replicate 91 'q').length > 90 := by decide

/-- a character outside printable ASCII (33..126) anywhere in the string is rejected -/
theorem decode_rejects_nonprintable {hrp s : List Char} {c : Char} (hc : c ∈ s)
    (h : c.toNat < 33 ∨ 126 < c.toNat) : decode hrp s = none :=
  decode_none_of fun _ _ _ hb => by have := (bech32Decode_eq_some_iff.mp hb).1 c hc; omega

example : ' ' ∈ "bc1 q".toList ∧ (' ' : Char).toNat < 33 := by
  rw [String.toList_ofList]
  decide

/-- a well-formed string whose prefix is not the expected one is rejected -/
theorem decode_rejects_other_hrp {hrp hrp' s : List Char} {data : List Nat} {spec : Encoding}
    (hb : bech32Decode s = some (hrp', data, spec)) (hne : hrp' ≠ hrp) : decode hrp s = none := by
  unfold decode
  simp only [hb]
  rw [if_pos hne]

example : (bech32Decode "tb1qw508d6qejxtdg4y5r3zarvary0c5xw7kxpjzsx".toList).map (·.1) = some "tb".toList ∧
    "tb".toList ≠ "bc".toList := by
  repeat rw [String.toList_ofList]
  decide +kernel

/-- version 0 with the Bech32m constant, or a non-zero version with the Bech32 constant, is
rejected -/
theorem decode_rejects_wrong_const {hrp hrp' s : List Char} {v : Nat} {data : List Nat}
    {spec : Encoding} (hb : bech32Decode s = some (hrp', v :: data, spec))
    (h : (v = 0 ∧ spec = .bech32m) ∨ (v ≠ 0 ∧ spec = .bech32)) : decode hrp s = none :=
  decode_none_of_cons hb fun _ _ _ _ hs => by
    rcases h with ⟨e, rfl⟩ | ⟨e, rfl⟩ <;> simp [specFor, e] at hs

-- BIP 350 invalid vectors: a v1 program with a Bech32 checksum, a v0 program with a Bech32m checksum
example :
    (bech32Decode "bc1p0xlxvlhemja6c4dqv22uapctqupfhlxm9h8z3k2e72q4k9hcz7vqh2y7hd".toList).map
        (fun r => (r.2.1.head?, r.2.2)) = some (some 1, .bech32) ∧
    (bech32Decode "bc1qw508d6qejxtdg4y5r3zarvary0c5xw7kemeawh".toList).map
        (fun r => (r.2.1.head?, r.2.2)) = some (some 0, .bech32m) := by
  repeat rw [String.toList_ofList]
  decide +kernel

/-- a character after the last `1` that is not in the character set (after lower-casing) is
rejected -/
theorem decode_rejects_bad_char {hrp pre dp : List Char} {c : Char} (hn : '1' ∉ dp) (hc : c ∈ dp)
    (hbad : toLowerAscii c ∉ charset) : decode hrp (pre ++ '1' :: dp) = none :=
  decode_none_of fun _ _ _ hb => hbad ((bech32Decode_split hn hb).2.2.1 c hc)

example : '1' ∉ "qqqqqbq".toList ∧ 'b' ∈ "qqqqqbq".toList ∧ toLowerAscii 'b' ∉ charset := by
  rw [String.toList_ofList]
  decide

/-- a string without the separator `1` is rejected -/
theorem decode_rejects_no_separator {hrp s : List Char} (h : '1' ∉ s) : decode hrp s = none :=
  decode_none_of fun _ _ _ hb => by
    obtain ⟨_, _, _, dp, hs, _⟩ := bech32Decode_eq_some_iff.mp hb
    exact h (one_mem_map_toLowerAscii.mp (hs ▸ by simp))

example : '1' ∉ "bcqw508d6qejxtdg4y5r3zarvary0c5xw7kv8f3t4".toList := by
  rw [String.toList_ofList]
  decide

/-- an empty prefix (the only `1` is the first character) is rejected -/
theorem decode_rejects_empty_hrp {hrp dp : List Char} (hn : '1' ∉ dp) :
    decode hrp ('1' :: dp) = none :=
  decode_none_of fun _ _ _ hb => (bech32Decode_split (pre := []) hn hb).1 rfl

example : '1' ∉ "qqqqqqq".toList := by
  rw [String.toList_ofList]
  decide

/-- fewer than six symbols after the last `1` (no room for the checksum) is rejected -/
theorem decode_rejects_short_checksum {hrp pre dp : List Char} (hn : '1' ∉ dp) (h : dp.length < 6) :
    decode hrp (pre ++ '1' :: dp) = none :=
  decode_none_of fun _ _ _ hb => Nat.not_le_of_lt h (bech32Decode_split hn hb).2.1

example : '1' ∉ "qqqqq".toList ∧ "qqqqq".toList.length < 6 := by
  rw [String.toList_ofList]
  decide

/-- a string whose data symbols do not verify against either checksum constant is rejected -/
theorem decode_rejects_bad_checksum {hrp pre dp : List Char} (hn : '1' ∉ dp)
    (h : verifyChecksum (pre.map toLowerAscii) ((dp.map toLowerAscii).map (charset.idxOf ·)) = none) :
    decode hrp (pre ++ '1' :: dp) = none :=
  decode_none_of fun _ _ _ hb => by
    rw [(bech32Decode_split hn hb).2.2.2] at h
    cases h

-- BIP 173 invalid vector: last character changed
example : '1' ∉ "qw508d6qejxtdg4y5r3zarvary0c5xw7kv8f3t5".toList ∧
    verifyChecksum ("bc".toList.map toLowerAscii)
      (("qw508d6qejxtdg4y5r3zarvary0c5xw7kv8f3t5".toList.map toLowerAscii).map (charset.idxOf ·)) = none := by
  repeat rw [String.toList_ofList]
  decide +kernel

/-- non-zero or over-long padding in the program symbols (the 5→8 regrouping fails) is rejected -/
theorem decode_rejects_padding {hrp hrp' s : List Char} {data : List Nat} {spec : Encoding}
    (hb : bech32Decode s = some (hrp', data, spec))
    (h : convertbits (data.drop 1) 5 8 false = none) : decode hrp s = none := by
  unfold decode
  simp only [hb, h]
  split <;> rfl

-- BIP 173 invalid vectors: zero padding of more than 4 bits, non-zero padding in 8-to-5 conversion
example :
    (bech32Decode "bc1zw508d6qejxtdg4y5r3zarvaryvqyzf3du".toList).map
        (fun r => convertbits (r.2.1.drop 1) 5 8 false) = some none ∧
    (bech32Decode "tb1qrp33g0q5c5txsp9arysrx4k6zdkfs4nce4xj0gdcccefvpysxf3pjxtptv".toList).map
        (fun r => convertbits (r.2.1.drop 1) 5 8 false) = some none := by
  repeat rw [String.toList_ofList]
  decide +kernel

theorem decode_rejects_version {hrp hrp' s : List Char} {v : Nat} {data : List Nat} {spec : Encoding}
    (hb : bech32Decode s = some (hrp', v :: data, spec)) (h : 16 < v) : decode hrp s = none :=
  decode_none_of_cons hb fun _ _ h16 _ _ => Nat.not_le_of_lt h h16

-- BIP 173 invalid vector: witness version 17
example : (bech32Decode "BC13W508D6QEJXTDG4Y5R3ZARVARY0C5XW7KN40WF2".toList).map (fun r => r.2.1.head?)
    = some (some 17) := by
  rw [String.toList_ofList]
  decide +kernel

theorem decode_rejects_length {hrp hrp' s : List Char} {data prog : List Nat} {spec : Encoding}
    (hb : bech32Decode s = some (hrp', data, spec))
    (hc : convertbits (data.drop 1) 5 8 false = some prog)
    (h : prog.length < 2 ∨ 40 < prog.length) : decode hrp s = none := by
  unfold decode
  simp only [hb, hc]
  rw [if_pos h]
  exact ite_self _

-- BIP 173 invalid vector: program of 1 byte
example : (bech32Decode "bc1rw5uspcuh".toList).map
    (fun r => (convertbits (r.2.1.drop 1) 5 8 false).map List.length) = some (some 1) := by
  rw [String.toList_ofList]
  decide +kernel

theorem decode_rejects_v0_length {hrp hrp' s : List Char} {data prog : List Nat} {spec : Encoding}
    (hb : bech32Decode s = some (hrp', 0 :: data, spec))
    (hc : convertbits data 5 8 false = some prog) (h20 : prog.length ≠ 20) (h32 : prog.length ≠ 32) :
    decode hrp s = none :=
  decode_none_of_cons hb fun _ hc' _ h0 _ => by
    obtain rfl := Option.some.inj (hc.symm.trans hc')
    exact (h0 rfl).elim h20 h32

-- BIP 173 invalid vector: version 0 with a 16-byte program
example : (bech32Decode "BC1QR508D6QEJXTDG4Y5R3ZARVARYV98GJ9P".toList).map
    (fun r => (r.2.1.head?, (convertbits (r.2.1.drop 1) 5 8 false).map List.length))
    = some (some 0, some 16) := by
  rw [String.toList_ofList]
  decide +kernel

end BtcHd.C11
