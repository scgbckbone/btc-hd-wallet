/-
C14 — Watch-only wallets.

"A wallet built from the extended public key of any node produces, for every non-hardened
sub-path, the same public keys, chain codes, depth/fingerprint/child-number metadata and
addresses of all five kinds as the full wallet produces below that node.  It reports itself
watch-only, offers no BIP85 derivation, gives no WIF and no extended private key (an explicit
error or an empty field, never a value), and refuses hardened derivation."

Definitions (`View`, `SamePublic`, `NoZeroIL`, `publicVersions`, …) and helper lemmas are in
`Lemmas/WatchOnly.lean`, the toy non-vacuity instance in `Lemmas/ToyGroup.lean` (two private facts
about it stand in front of the examples that use them).  The curve is abstract: its laws are the explicit hypotheses
`CurveLaws` (`Lemmas/CurveLaws.lean`) and `C02.GroupLaws` (C02); the `IL = 0` corner of C02 is excluded by the
hypothesis `NoZeroIL`, restricted to the derivation steps actually taken.

Model functions: `Wallet.fromExtendedKey`, `Wallet.watchOnly`, `nodeExtendedKeys`,
`nodeExtendedPrivateKey`, `groupRow` / `group`, `bipAccount`, `bip85Data`, `generate`,
`wasabi`, `byPath`, the five address functions (`Model/Wallet.lean`); `ckd`, `derivePath`,
`extendedPublicKey`, `extendedPrivateKey`, `pubKey`, `fingerprint` (`Model/Bip32.lean`).
An error (Python exception) is `none`; an empty field (`None`) is `Json.null`.
-/
import BtcHd.Lemmas.WatchOnly
import BtcHd.Lemmas.ToyGroup

namespace BtcHd.C14
open BtcHd Bip32 Keys Wallet WatchOnly XKey

variable {Pt : Type}

/-! ### the wallet reports itself watch-only -/

/-- a wallet built from a string whose version is one of the six public ones (x/y/z/t/u/v-pub)
is watch-only: its master is a public node, wallet and master take the network of the version,
and no mnemonic / password is stored -/
theorem wo_flags (P : Prims Pt) (s : List Char) (w : Wallet) (payload : Bytes)
    (h : fromExtendedKey P s = some w) (hd : Base58.decodeCheck P.hash256 s = some payload)
    (hv : beToNat (payload.take 4) ∈ publicVersions) :
    w.watchOnly = true ∧ w.master.isPrv = false ∧
      w.testnet = decide (beToNat (payload.take 4) ∈ testnetPublicVersions) ∧
      w.master.testnet = w.testnet ∧ w.mnemonic = none ∧ w.password = none := by
  obtain ⟨_, ver, hp, hver, rfl⟩ := (C07.fromExtendedKey_spec P s w).mp h
  obtain rfl := Option.some.inj (hd.symm.trans hp)
  obtain ⟨ver', hver', hkt, ht⟩ := parse_publicVersions _ hv
  obtain rfl := Option.some.inj (hver.symm.trans hver')
  have hpub : decide (ver.keyType = 0) = false := by rw [hkt]; rfl
  exact ⟨(watchOnly_iff _).mpr hpub, hpub, ht, rfl, rfl, rfl⟩

/-- conversely the version decides: a wallet built by `from_extended_key` is watch-only exactly
when the version of the string is one of the six public ones -/
theorem wo_flags_iff (P : Prims Pt) (s : List Char) (w : Wallet) (payload : Bytes)
    (h : fromExtendedKey P s = some w) (hd : Base58.decodeCheck P.hash256 s = some payload) :
    w.watchOnly = true ↔ beToNat (payload.take 4) ∈ publicVersions := by
  obtain ⟨_, ver, hp, hver, rfl⟩ := (C07.fromExtendedKey_spec P s w).mp h
  obtain rfl := Option.some.inj (hd.symm.trans hp)
  rw [watchOnly_iff, ← Classical.not_not (a := _ ∈ publicVersions), ← (keyType_iff hver).2]
  exact decide_eq_false_iff_not

/-- the version a (full or watch-only) wallet writes into a node's extended public key is a
public one of the wallet's own network, so importing that string gives a watch-only wallet on
the same network -/
theorem wo_flags_of_wallet_xpub (P : Prims Pt) (W : Wallet) (nd : Node) (s : List Char) (w : Wallet)
    (hs : nodeExtendedPublicKey P W nd = some s) (h : fromExtendedKey P s = some w)
    (hlen : ∀ x, 4 ≤ (P.hash256 x).length) :
    w.watchOnly = true ∧ w.testnet = W.testnet := by
  obtain ⟨v, hv, hx⟩ := Option.bind_eq_some_iff.mp hs
  obtain ⟨b, hver⟩ := nodeVersionInt_pub hv
  obtain ⟨ser, hser, rfl⟩ := Option.map_eq_some_iff.mp hx
  obtain ⟨K, _, hser⟩ := serializePublic_eq_some.mp hser
  rw [fromExtendedKey_of_version P hlen (serializeWith_version hser) hver] at h
  obtain rfl := Option.some.inj h
  exact ⟨rfl, rfl⟩

/-! ### no private material: empty field or error, never a value -/

theorem wo_nodes_public (P : Prims Pt) (w : Wallet) (hw : w.watchOnly = true) (is : List Nat)
    (c : Node) (h : derivePath P w.master is = some c) : c.isPrv = false :=
  (derivePath_fields h).1.trans ((watchOnly_iff w).mp hw)

theorem wo_byPath_public (P : Prims Pt) (w : Wallet) (hw : w.watchOnly = true) (s : List Char)
    (c : Node) (h : byPath P w s = some c) : c.isPrv = false := by
  unfold byPath at h
  obtain ⟨p, _, hp⟩ := Option.bind_eq_some_iff.mp h
  exact wo_nodes_public P w hw _ c hp

/-- a public node has no extended private key: `node_extended_private_key` raises (in any
wallet), and the node itself has no `serialize_private` / `extended_private_key`, whatever the
version -/
theorem wo_no_extended_private_key (P : Prims Pt) (w : Wallet) (c : Node) (hc : c.isPrv = false)
    (v : Option Nat) :
    nodeExtendedPrivateKey P w c = none ∧ extendedPrivateKey P c v = none ∧
      serializePrivate P c v = none := by
  have h : serializePrivate P c v = none := by rw [serializePrivate, hc]; rfl
  exact ⟨by rw [nodeExtendedPrivateKey, hc]; rfl, by rw [extendedPrivateKey, h]; rfl, h⟩

/-- a well-formed public node holds no scalar at all: reading `private_key` off its 33 key bytes
(which start with 02 / 03) is refused, so nothing WIF-like can be computed from it -/
theorem wo_no_scalar (P : Prims Pt) (hC : CurveLaws P.curve) (c : Node) (hwf : c.WF P)
    (hc : c.isPrv = false) : prvKey P c = none :=
  prvKey_none_of_shaped P (shaped_of_wf P hC hwf hc)

/-- `node_extended_keys` of a watch-only wallet, for any node: exactly the path, the extended
public key, and `"prv": None` -/
theorem wo_extended_keys_prv_null (P : Prims Pt) (w : Wallet) (hw : w.watchOnly = true) (nd : Node)
    (j : Json) (h : nodeExtendedKeys P w nd = some j) :
    ∃ pub, nodeExtendedPublicKey P w nd = some pub ∧
      j = .obj [("path".toList, .str (nodeRepr nd)), ("pub".toList, .str pub),
                ("prv".toList, .null)] := by
  rw [nodeExtendedKeys, hw] at h
  obtain ⟨pub, hpub, rfl⟩ := Option.map_eq_some_iff.mp h
  exact ⟨pub, hpub, rfl⟩

/-- a paper-wallet row of a watch-only wallet is `[path, address, sec-hex, None]`: no WIF -/
theorem wo_row_no_wif (P : Prims Pt) (w : Wallet) (hw : w.watchOnly = true)
    (addr : Node → Option (List Char)) (nd : Node) (row : Json)
    (h : groupRow P w addr nd = some row) :
    ∃ a K, addr nd = some a ∧ pubKey P nd = some K ∧
      row = .arr [.str (nodeRepr nd), .str a, .str (toHex (P.curve.sec true K)), .null] := by
  rw [groupRow, hw] at h
  obtain ⟨a, ha, h⟩ := Option.bind_eq_some_iff.mp h
  obtain ⟨K, hK, h⟩ := Option.bind_eq_some_iff.mp h
  obtain rfl := Option.some.inj h
  exact ⟨a, K, ha, hK, rfl⟩

theorem wo_group_no_wif (P : Prims Pt) (w : Wallet) (hw : w.watchOnly = true)
    (addr : Node → Option (List Char)) (nodes : List Node) (rows : List Json)
    (h : group P w addr nodes = some rows) :
    ∀ row ∈ rows, ∃ p a k, row = .arr [.str p, .str a, .str k, .null] := by
  intro row hrow
  obtain ⟨nd, _, hnd⟩ := Basics.mem_of_mapM_eq_some h hrow
  obtain ⟨a, K, _, _, rfl⟩ := wo_row_no_wif P w hw addr nd row hnd
  exact ⟨_, _, _, rfl⟩

/-- a watch-only wallet offers no BIP85 derivation (`self.bip85` is `None`) -/
theorem wo_no_bip85 (P : Prims Pt) (w : Wallet) (hw : w.watchOnly = true) : bip85Data P w = none := by
  rw [bip85Data, if_pos hw]

/-- even when handed the public master of a watch-only wallet directly, every BIP85 application
(entropy, mnemonic, WIF, xprv, hex, password; any arguments) is refused: no derived node holds a
scalar -/
theorem wo_no_bip85_entropy (P : Prims Pt) (hC : CurveLaws P.curve) (w : Wallet)
    (hw : w.watchOnly = true) (hwf : w.master.WF P) :
    (∀ path, Bip85.entropy P w.master path = none) ∧
      (∀ wc i, Bip85.bip39Mnemonic P w.master wc i = none) ∧
      (∀ i, Bip85.wif P w.master i = none) ∧ (∀ i, Bip85.xprv P w.master i = none) ∧
      (∀ n i, Bip85.hex P w.master n i = none) ∧ (∀ n i, Bip85.pwd P w.master n i = none) := by
  have hm := (watchOnly_iff w).mp hw
  have he := bip85_entropy_public P hC hm (shaped_of_wf P hC hwf hm)
  refine ⟨he, fun wc i => ?_, fun i => ?_, fun i => ?_, fun n i => ?_, fun n i => ?_⟩
  · unfold Bip85.bip39Mnemonic; rw [he]; rfl
  · unfold Bip85.wif; rw [he]; rfl
  · unfold Bip85.xprv; rw [he]; rfl
  · unfold Bip85.hex; rw [he]; split <;> rfl
  · unfold Bip85.pwd; rw [he]; split <;> rfl

/-- `bip44` / `bip49` / `bip84` (any purpose, account, interval) are refused by a watch-only
wallet: the account path is hardened -/
theorem wo_no_account (P : Prims Pt) (w : Wallet) (hw : w.watchOnly = true) (purpose : Nat)
    (addr : Node → Option (List Char)) (account a b : Nat) :
    bipAccount P w purpose addr account a b = none :=
  bipAccount_of_watchOnly P ((watchOnly_iff w).mp hw) purpose addr account a b

/-- `generate` (the full paper-wallet report) and `wasabi_json` are refused by a watch-only
wallet -/
theorem wo_no_report (P : Prims Pt) (w : Wallet) (hw : w.watchOnly = true) (account a b : Nat) :
    generate P w account a b = none ∧ wasabi P w = none :=
  ⟨generate_of_watchOnly P ((watchOnly_iff w).mp hw) account a b,
    wasabi_wo P ((watchOnly_iff w).mp hw)⟩

/-! ### hardened derivation is refused -/

theorem wo_refuses_hardened_child (P : Prims Pt) (nd : Node) (hnd : nd.isPrv = false) (i : Nat)
    (hi : 2 ^ 31 ≤ i) : ckd P nd i = none :=
  ckd_of_hardened P hnd hi

/-- `by_path` of a watch-only wallet fails whenever the path string does not parse or parses to
a path containing a hardened level -/
theorem wo_refuses_hardened (P : Prims Pt) (w : Wallet) (hw : w.watchOnly = true) (s : List Char)
    (h : Path.parse s = none ∨ ∃ p, Path.parse s = some p ∧ ∃ i ∈ p.levels, 2 ^ 31 ≤ i) :
    byPath P w s = none := by
  apply byPath_wo_hardened P ((watchOnly_iff w).mp hw)
  intro p hp
  rcases h with h | ⟨p', hp', h⟩
  · rw [h] at hp; cases hp
  · rw [hp] at hp'; cases hp'; exact h

/-- on the text: a path string with a `'` or `h` marker on any of its first five components is
refused by a watch-only wallet -/
theorem wo_refuses_marked (P : Prims Pt) (w : Wallet) (hw : w.watchOnly = true)
    (s root c d : List Char) (comps : List (List Char)) (m : Char)
    (hs : Text.splitOn '/' s = root :: comps) (hc : c ∈ comps.take 5) (hcd : c = d ++ [m])
    (hm : m = '\'' ∨ m = 'h') : byPath P w s = none :=
  byPath_wo_hardened P ((watchOnly_iff w).mp hw) s
    fun _ hp => parse_marked_hardened hs hc hcd hm hp

/-- non-vacuity of `wo_refuses_marked`: `M/0/5h/1` has a marked second component -/
example : Text.splitOn '/' "M/0/5h/1".toList = "M".toList :: ["0".toList, "5h".toList, "1".toList] ∧
    "5h".toList ∈ ["0".toList, "5h".toList, "1".toList].take 5 ∧ "5h".toList = "5".toList ++ ['h'] := by
  repeat rw [String.toList_ofList]
  decide +kernel

/-! ### public derivation agrees with private derivation -/

/-- **the commuting square**: from a private node `N`, along any list of normal indexes,
deriving privately and then dropping the private part equals dropping the private part of `N`
and deriving publicly (both fail or both succeed with the same node) -/
theorem wo_public (P : Prims Pt) (L : C02.GroupLaws P) (N : Node) (k : Nat)
    (hp : N.isPrv = true) (hk : prvKey P N = some k) (is : List Nat) (his : ∀ i ∈ is, i < 2 ^ 31)
    (hIL : NoZeroIL P N is) :
    (derivePath P N is).bind (C02.neuter P) = (C02.neuter P N).bind (derivePath P · is) :=
  C02.derivePub_neuter_of P L (NoZeroIL P) (fun _ _ _ k h hk => h.1 k hk)
    (fun _ _ _ c h hc => h.2 c hc) is his N k hp hk hIL

/-- the same, node by node: every private descendant `c` of `N` has its public view `c'` among
the public descendants of the public view of `N`, at the same index list, and conversely -/
theorem wo_public_nodes (P : Prims Pt) (L : C02.GroupLaws P) (N Npub : Node) (k : Nat)
    (hp : N.isPrv = true) (hk : prvKey P N = some k) (hN : C02.neuter P N = some Npub)
    (is : List Nat) (his : ∀ i ∈ is, i < 2 ^ 31) (hIL : NoZeroIL P N is) :
    (∀ c, derivePath P N is = some c →
        ∃ c', C02.neuter P c = some c' ∧ derivePath P Npub is = some c') ∧
    (∀ c', derivePath P Npub is = some c' →
        ∃ c, derivePath P N is = some c ∧ C02.neuter P c = some c') := by
  have hsq := wo_public P L N k hp hk is his hIL
  rw [hN, Option.bind_some] at hsq
  constructor
  · intro c hc
    obtain ⟨_, kc, hkc⟩ := derivePath_prvKey P L.n_le is hp hk hc
    exact ⟨_, C02.neuter_eq_some P hkc, by rw [← hsq, hc, Option.bind_some, C02.neuter_eq_some P hkc]⟩
  · intro c' hc'
    rw [hc'] at hsq
    exact Option.bind_eq_some_iff.mp hsq

/-- a private node `c` and its public view `c'` have the same chain code, depth, child number,
stored and effective parent fingerprint, path, network, public key and own fingerprint; `c'` is
a public node -/
theorem wo_neuter_same (P : Prims Pt) (L : C02.GroupLaws P) (c c' : Node) (hp : c.isPrv = true)
    (h : C02.neuter P c = some c') :
    c'.isPrv = false ∧ c'.chainCode = c.chainCode ∧ c'.depth = c.depth ∧ c'.index = c.index ∧
      c'.parentFp = c.parentFp ∧ parentFingerprint c' = parentFingerprint c ∧ c'.path = c.path ∧
      c'.testnet = c.testnet ∧ pubKey P c' = pubKey P c ∧ fingerprint P c' = fingerprint P c := by
  have hk := pubKey_neuter P L hp h
  obtain ⟨k, _, rfl⟩ := Option.map_eq_some_iff.mp h
  exact ⟨rfl, rfl, rfl, rfl, rfl, rfl, rfl, rfl, hk, by rw [fingerprint, fingerprint, hk]⟩

/-- **addresses depend on a node only through its public key**: two nodes with the same
`public_key` have the same fingerprint and the same address of each of the five kinds (p2pkh,
p2wpkh, p2sh-p2wpkh, p2wsh, p2sh-p2wsh) on either network -/
theorem address_of_public (P : Prims Pt) (a b : Node) (h : pubKey P a = pubKey P b) (t : Bool) :
    fingerprint P a = fingerprint P b ∧
      p2pkhAddress P t a = p2pkhAddress P t b ∧ p2wpkhAddress P t a = p2wpkhAddress P t b ∧
      p2shP2wpkhAddress P t a = p2shP2wpkhAddress P t b ∧
      p2wshAddress P t a = p2wshAddress P t b ∧
      p2shP2wshAddress P t a = p2shP2wshAddress P t b := by
  unfold fingerprint p2pkhAddress p2wpkhAddress p2shP2wpkhAddress p2wshAddress p2shP2wshAddress
  rw [h]
  exact ⟨rfl, rfl, rfl, rfl, rfl, rfl⟩

/-- nodes with the same public data (`SamePublic`: chain code, depth, child number, parent
fingerprint, public key) and BIP32-valid headers print the same extended public key under every
explicit version -/
theorem same_public_xpub (P : Prims Pt) (c' c : Node) (h : SamePublic P c' c)
    (hv' : BIP32valid c') (hv : BIP32valid c) (v : Nat) :
    extendedPublicKey P c' (some v) = extendedPublicKey P c (some v) := by
  unfold extendedPublicKey serializePublic
  rw [h.pubKey_eq]
  simp only [Option.getD_some, serializeWith_congr h.depth_eq h.index_eq
    (by rw [fpField_eq_of_valid hv', fpField_eq_of_valid hv, h.parentFingerprint_eq]) h.chainCode_eq]

/-! ### importing the extended public key -/

/-- **`ckd` reads only class, key and chain code**: the child of `a` is the child of `b` with the
inherited metadata (class, depth, network, path) of `a` — so in particular key, chain code, child
number and parent fingerprint of the two children coincide -/
theorem ckd_congr (P : Prims Pt) (a b : Node) (hp : a.isPrv = b.isPrv) (hk : a.key = b.key)
    (hc : a.chainCode = b.chainCode) (i : Nat) :
    ckd P a i = (ckd P b i).map (reMeta a i) ∧ ckdPub P a i = (ckdPub P b i).map (reMeta a i) :=
  ⟨ckd_eq_map P hp hk hc (mkChild_reMeta a b · · i ·), ckdPub_eq_map P hk hc (mkChild_reMeta a b · · i ·)⟩

/-- **derivation depends on a node only through its view** (class, key, chain code, depth, child
number, parent fingerprint): two such nodes both fail or both succeed, along every index list,
with descendants having the same view -/
theorem derive_congr (P : Prims Pt) (a b : Node) (h : view a = view b) (is : List Nat) :
    (derivePath P a is).map view = (derivePath P b is).map view :=
  derivePath_view_congr P is h

/-- **import round trip**: `from_extended_key` applied to the extended public key of a
well-formed, BIP32-valid node `N` (private or public) under a version of key type PUB builds a
wallet whose master is a public node with the key, chain code, depth, child number and parent
fingerprint of the public view of `N`; as a parsed node it has no parent object, an empty path,
the network of the version, and remembers the version; it is again well-formed and valid -/
theorem wo_import_roundtrip (P : Prims Pt) (hC : CurveLaws P.curve)
    (hlen : ∀ x, 4 ≤ (P.hash256 x).length) (N : Node) (hwf : N.WF P) (hvalid : BIP32valid N)
    (v : Nat) (hv : v ∈ publicVersions) (s : List Char)
    (hs : extendedPublicKey P N (some v) = some s) :
    ∃ w nn, fromExtendedKey P s = some w ∧ Bip32.neuter P N = some nn ∧
      w.watchOnly = true ∧ w.testnet = decide (v ∈ testnetPublicVersions) ∧
      w.master.testnet = w.testnet ∧ w.mnemonic = none ∧ w.password = none ∧
      w.master.isPrv = false ∧ w.master.key = nn.key ∧ w.master.chainCode = nn.chainCode ∧
      w.master.depth = nn.depth ∧ w.master.index = nn.index ∧
      parentFingerprint w.master = parentFingerprint nn ∧
      nodeEq w.master { nn with testnet := w.testnet } = true ∧
      w.master.hasParent = false ∧ w.master.path = [] ∧ w.master.parsedVersion = some v ∧
      w.master.WF P ∧ BIP32valid w.master := by
  obtain ⟨K, hK, hl, hinf, himp, hview⟩ := import_xpub hC hlen hwf hvalid hv hs
  have hfp := (view_eq_iff.mp hview).2.2.2.2.2
  exact ⟨_, { N with isPrv := false, key := P.curve.sec true K }, himp,
    Bip32.neuter_eq_some hK, rfl, rfl, rfl, rfl, rfl, rfl, rfl, rfl, rfl, rfl, hfp,
    decide_eq_true ⟨rfl, rfl, rfl, rfl, rfl, rfl, hfp⟩, rfl, rfl, rfl,
    WF_parsedOf hwf _ _ _ nofun fun _ => ⟨hl, K, hC.parse_sec true K hinf⟩,
    BIP32valid_parsedOf _ _ _ _ hwf.fp_len hvalid⟩

/-- **the children of the imported node and of the public view agree**: for every index,
`ckd` on the master of the imported wallet and on the public view of `N` both fail or give
children with the same class, key, chain code, depth, child number and parent fingerprint —
and so on along every index list -/
theorem wo_import_children (P : Prims Pt) (hC : CurveLaws P.curve)
    (hlen : ∀ x, 4 ≤ (P.hash256 x).length) (N : Node) (hwf : N.WF P) (hvalid : BIP32valid N)
    (v : Nat) (hv : v ∈ publicVersions) (s : List Char)
    (hs : extendedPublicKey P N (some v) = some s) :
    ∃ w nn, fromExtendedKey P s = some w ∧ Bip32.neuter P N = some nn ∧
      (∀ i, (ckdPub P w.master i).map view = (ckdPub P nn i).map view) ∧
      ∀ is, (derivePath P w.master is).map view = (derivePath P nn is).map view := by
  obtain ⟨K, hK, _, _, himp, hview⟩ := import_xpub hC hlen hwf hvalid hv hs
  refine ⟨_, { N with isPrv := false, key := P.curve.sec true K }, himp,
    Bip32.neuter_eq_some hK, fun i => ?_,
    fun is => derivePath_view_congr P is hview⟩
  rw [← ckd_eq_ckdPub P rfl, ← ckd_eq_ckdPub P rfl]
  exact ckd_view_congr P hview i

/-! ### the property, end to end -/

/-- **C14, keys and addresses**: let `N` be a well-formed, BIP32-valid private node (any node of
a full wallet), `s` its extended public key under any of the six public versions.  Then
`from_extended_key s` is a watch-only wallet `w` such that for every list `is` of normal indexes
(any length; no `IL = 0` corner on the way): the full side `derive_path` from `N` succeeds iff
the watch-only side from `w.master` does, and the two nodes have the same chain code, depth,
child number, parent fingerprint and public key — hence the same own fingerprint and, on either
network, the same five addresses; the watch-only node is public -/
theorem wo_wallet_agrees (P : Prims Pt) (hC : CurveLaws P.curve) (L : C02.GroupLaws P)
    (hlen : ∀ x, 4 ≤ (P.hash256 x).length) (N : Node) (hwf : N.WF P) (hvalid : BIP32valid N)
    (hp : N.isPrv = true) (v : Nat) (hv : v ∈ publicVersions) (s : List Char)
    (hs : extendedPublicKey P N (some v) = some s) :
    ∃ w, fromExtendedKey P s = some w ∧ w.watchOnly = true ∧
      w.testnet = decide (v ∈ testnetPublicVersions) ∧
      ∀ is, (∀ i ∈ is, i < 2 ^ 31) → NoZeroIL P N is →
        (∀ c, derivePath P N is = some c →
          ∃ c', derivePath P w.master is = some c' ∧ c'.isPrv = false ∧ SamePublic P c' c) ∧
        (∀ c', derivePath P w.master is = some c' →
          ∃ c, derivePath P N is = some c ∧ c'.isPrv = false ∧ SamePublic P c' c) := by
  obtain ⟨K, hK, _, _, himp, hview⟩ := import_xpub hC hlen hwf hvalid hv hs
  have hnn : C02.neuter P N = some { N with isPrv := false, key := P.curve.sec true K } := by
    rw [← neuter_eq_C02 P hp, Bip32.neuter_eq_some hK]
  have hk := prvKey_wf L.n_le hwf hp
  refine ⟨_, himp, rfl, rfl, fun is his hIL => ?_⟩
  obtain ⟨hfwd, hbwd⟩ := wo_public_nodes P L N _ _ hp hk hnn is his hIL
  have hcongr := derivePath_view_congr P is hview
  constructor
  · intro c hc
    obtain ⟨cn, hcn, hdn⟩ := hfwd c hc
    rw [hdn] at hcongr
    obtain ⟨c', hc', hv'⟩ := Option.map_eq_some_iff.mp hcongr
    exact ⟨c', hc', (derivePath_fields hc').1, (SamePublic.of_view P hv').trans
      (SamePublic.of_neuter P L ((derivePath_fields hc).1.trans hp) hcn)⟩
  · intro c' hc'
    rw [hc'] at hcongr
    obtain ⟨cn, hdn, hv'⟩ := Option.map_eq_some_iff.mp hcongr.symm
    obtain ⟨c, hc, hcn⟩ := hbwd cn hdn
    exact ⟨c, hc, (derivePath_fields hc').1, (SamePublic.of_view P hv'.symm).trans
      (SamePublic.of_neuter P L ((derivePath_fields hc).1.trans hp) hcn)⟩

/-- what `SamePublic` is for: with the five fields, the own fingerprint and the five addresses agree -/
theorem same_public_spec (P : Prims Pt) (c' c : Node) (h : SamePublic P c' c) (t : Bool) :
    c'.chainCode = c.chainCode ∧ c'.depth = c.depth ∧ c'.index = c.index ∧
      parentFingerprint c' = parentFingerprint c ∧ pubKey P c' = pubKey P c ∧
      fingerprint P c' = fingerprint P c ∧
      p2pkhAddress P t c' = p2pkhAddress P t c ∧ p2wpkhAddress P t c' = p2wpkhAddress P t c ∧
      p2shP2wpkhAddress P t c' = p2shP2wpkhAddress P t c ∧
      p2wshAddress P t c' = p2wshAddress P t c ∧
      p2shP2wshAddress P t c' = p2shP2wshAddress P t c :=
  ⟨h.chainCode_eq, h.depth_eq, h.index_eq, h.parentFingerprint_eq, h.pubKey_eq,
    address_of_public P c' c h.pubKey_eq t⟩

/-- **C14 for a watch-only source**: when `N` is itself a public node (a node of a watch-only
wallet), the wallet imported from its extended public key agrees with derivation from `N` along
*every* index list (hardened ones fail on both sides), with no curve-group hypothesis -/
theorem wo_wallet_agrees_public (P : Prims Pt) (hC : CurveLaws P.curve)
    (hlen : ∀ x, 4 ≤ (P.hash256 x).length) (N : Node) (hwf : N.WF P) (hvalid : BIP32valid N)
    (hp : N.isPrv = false) (v : Nat) (hv : v ∈ publicVersions) (s : List Char)
    (hs : extendedPublicKey P N (some v) = some s) :
    ∃ w, fromExtendedKey P s = some w ∧ w.watchOnly = true ∧
      ∀ is, (derivePath P w.master is).map view = (derivePath P N is).map view := by
  obtain ⟨K, hK, _, _, himp, hview⟩ := import_xpub hC hlen hwf hvalid hv hs
  obtain ⟨K', hK', _, _, hkey⟩ := pubKey_wf hC hwf
  obtain rfl := Option.some.inj (hK.symm.trans hK')
  refine ⟨_, himp, rfl, fun is => derivePath_view_congr P is (hview.trans (view_eq_iff.mpr ?_))⟩
  exact ⟨hp.symm, hkey hp, rfl, rfl, rfl, rfl⟩

/-- **C14 at wallet level**: if a full wallet `W` prints `s` as the extended public key of one of
its (well-formed, private) nodes `N`, the wallet imported from `s` is watch-only, on the network
of `W`, and below `N` the two wallets print the same five addresses (each with its own network
flag) for every normal sub-path -/
theorem wo_wallet_agrees_addresses (P : Prims Pt) (hC : CurveLaws P.curve) (L : C02.GroupLaws P)
    (hlen : ∀ x, 4 ≤ (P.hash256 x).length) (W : Wallet) (N : Node) (hwf : N.WF P)
    (hvalid : BIP32valid N) (hp : N.isPrv = true) (s : List Char)
    (hs : nodeExtendedPublicKey P W N = some s) :
    ∃ w, fromExtendedKey P s = some w ∧ w.watchOnly = true ∧ w.testnet = W.testnet ∧
      ∀ is, (∀ i ∈ is, i < 2 ^ 31) → NoZeroIL P N is → ∀ c c', derivePath P N is = some c →
        derivePath P w.master is = some c' →
          p2pkhAddress P w.testnet c' = p2pkhAddress P W.testnet c ∧
          p2wpkhAddress P w.testnet c' = p2wpkhAddress P W.testnet c ∧
          p2shP2wpkhAddress P w.testnet c' = p2shP2wpkhAddress P W.testnet c ∧
          p2wshAddress P w.testnet c' = p2wshAddress P W.testnet c ∧
          p2shP2wshAddress P w.testnet c' = p2shP2wshAddress P W.testnet c := by
  obtain ⟨v, hv, hx⟩ := Option.bind_eq_some_iff.mp hs
  obtain ⟨b, hver⟩ := nodeVersionInt_pub hv
  obtain ⟨w, hw, hwo, _, hall⟩ :=
    wo_wallet_agrees P hC L hlen N hwf hvalid hp v ((keyType_iff hver).1.mp rfl) s hx
  have ht := (wo_flags_of_wallet_xpub P W N s w hs hw hlen).2
  refine ⟨w, hw, hwo, ht, fun is his hIL c c' hc hc' => ?_⟩
  obtain ⟨c2, hc2, _, hsame⟩ := (hall is his hIL).2 c' hc'
  obtain rfl := Option.some.inj (hc.symm.trans hc2)
  rw [ht]
  exact (address_of_public P c' c hsame.pubKey_eq W.testnet).2

private theorem noZeroIL1 (nd : Node) (is : List Nat) : NoZeroIL Toy.prims1 nd is :=
  NoZeroIL_of_global _ _ (fun nd' k' i _ _ => by rw [Toy.IL1]; decide) _

private theorem xpub1 : ∃ s, extendedPublicKey Toy.prims1 Toy.prvNode (some 0x04B24746) = some s := by
  obtain ⟨ser, hser, _⟩ := C07.serialize_length_public (P := Toy.prims1) Toy.laws1 Toy.prvNode_wf1
    (some 0x04B24746) (by decide)
  exact ⟨_, by unfold extendedPublicKey; rw [hser]; rfl⟩

/-- the hypotheses of `wo_wallet_agrees` are satisfiable with a derivation that succeeds: toy
curve Z/5 with a PRF whose left half is 1, the depth-2 private node with scalar 3, version `zpub`,
index list `[7]` -/
example : ∃ (P : Prims Nat) (N : Node) (s : List Char) (c : Node),
    CurveLaws P.curve ∧ C02.GroupLaws P ∧ (∀ x, 4 ≤ (P.hash256 x).length) ∧ N.WF P ∧
      BIP32valid N ∧ N.isPrv = true ∧ (0x04B24746 : Nat) ∈ publicVersions ∧
      extendedPublicKey P N (some 0x04B24746) = some s ∧ (∀ i ∈ [7], i < 2 ^ 31) ∧
      NoZeroIL P N [7] ∧ derivePath P N [7] = some c := by
  obtain ⟨c, hc⟩ := Toy.prvNode_child1
  obtain ⟨s, hs⟩ := xpub1
  exact ⟨Toy.prims1, Toy.prvNode, s, c, Toy.laws1, Toy.groupLaws1,
    Toy.hash256_len1, Toy.prvNode_wf1, Toy.prvNode_valid, rfl,
    by decide, hs, by decide, noZeroIL1 _ _, hc⟩

/-- … and the watch-only side then produces the matching public node -/
example : ∃ (w : Wallet) (c c' : Node), w.watchOnly = true ∧
    derivePath Toy.prims1 Toy.prvNode [7] = some c ∧
    derivePath Toy.prims1 w.master [7] = some c' ∧ SamePublic Toy.prims1 c' c := by
  obtain ⟨c, hc⟩ := Toy.prvNode_child1
  obtain ⟨s, hs⟩ := xpub1
  obtain ⟨w, _, hwo, _, hall⟩ := wo_wallet_agrees Toy.prims1 Toy.laws1 Toy.groupLaws1
    Toy.hash256_len1 Toy.prvNode Toy.prvNode_wf1 Toy.prvNode_valid rfl
    0x04B24746 (by decide) s hs
  obtain ⟨c', hc', _, hsame⟩ := (hall [7] (by decide) (noZeroIL1 _ _)).1 c hc
  exact ⟨w, c, c', hwo, hc, hc', hsame⟩

/-- non-vacuity of `wo_no_scalar` / `wo_no_bip85_entropy`: a watch-only wallet with a well-formed
public master over a curve instance satisfying `CurveLaws` -/
example : ∃ w : Wallet, w.watchOnly = true ∧ w.master.WF Toy.prims ∧ CurveLaws Toy.prims.curve :=
  ⟨⟨Toy.pubNode, true, none, none⟩, rfl, Toy.pubNode_wf, Toy.laws⟩

/-- watch-only wallets exist: importing the four `xpub` version bytes (checksummed) already gives
one (cf. the observation at the end of C07) -/
example : ∃ w, fromExtendedKey Toy.prims
      (Base58.encodeCheck Toy.prims.hash256 (beFixed 4 0x0488B21E)) = some w ∧
    w.watchOnly = true :=
  ⟨_, C07.fromExtendedKey_encodeCheck Toy.prims Toy.hash256_len
    (beFixed 4 0x0488B21E) 0x0488B21E (by decide) (by decide) ⟨1, 0, false⟩ (by decide), by decide⟩

end BtcHd.C14
