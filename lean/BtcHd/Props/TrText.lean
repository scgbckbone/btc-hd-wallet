/-
Translated Python (`BtcHd.CodeObj5`, generated from /repo by harness/translate_obj5.py) = hand-written model:
the random-source route (`mnemonic_from_entropy_bits`, `from_entropy_bits`, `new_wallet`), `PubKeyNode.__eq__`,
`BaseWallet.__eq__`, and the text layer of `PaperWallet` (`json`, `pprint`, `export_wallet`, `wasabi_json`,
`export_wasabi`).  The tables the translator uses are stated in the header of harness/translate_obj5.py.
-/
import BtcHd.Generated.CodeObj5
import BtcHd.Props.TrPaper

namespace BtcHd.TrText
open BtcHd BtcHd.Translated BtcHd.TrBip32 BtcHd.TrWallet BtcHd.TrPaper Bip32 Keys Wallet

variable {Pt : Type}

/-- `mnemonic_from_entropy_bits`: size check, `getrandbits` over the OS source, ENT/8 big-endian bytes, the sentence -/
theorem entropy_bits_eq (P : Prims Pt) (os : Nat → Bytes) (bits : Nat) :
    CodeObj5.mnemonic_from_entropy_bits P os bits = Bip39.mnemonicFromEntropyBits P.sha256 os bits := by
  unfold CodeObj5.mnemonic_from_entropy_bits Bip39.mnemonicFromEntropyBits
  simp only [correct_bits_eq, mnemonic_from_entropy_eq, (int_helpers_eq [] _ _).2.2]
  split <;> rfl

/-- `dict(zip(keys, values)).get(k)` read as a search for the first pair with that key -/
theorem lookup_eq_find? {α β : Type} [DecidableEq α] (l : List (α × β)) (k : α) :
    l.lookup k = (l.find? (·.1 = k)).map (·.2) := by
  induction l with
  | nil => rfl
  | cons x xs ih =>
    rw [List.lookup_cons, List.find?_cons, ih]
    by_cases h : x.1 = k
    · rw [decide_eq_true h, ← h, beq_self_eq_true]; rfl
    · rw [decide_eq_false h, beq_false_of_ne (Ne.symm h)]

/-- `from_entropy_bits` and `new_wallet` (the word-count table is the zipped pair of the two lists of the source) -/
theorem new_wallet_eq (P : Prims Pt) (os : Nat → Bytes) (len : Nat) (pw : List Char) (t : Bool) :
    CodeObj5.w_new_wallet P os len pw t = newWallet P os len pw t := by
  unfold CodeObj5.w_new_wallet newWallet CodeObj5.w_from_entropy_bits
  simp only [entropy_bits_eq, (constructors_eq P ⟨default, false, none, none⟩ [] [] _ pw [] [] [] t).2.2.2.1]
  rw [show List.zip Generated.correctMnemonicLength Generated.correctEntropyBits = Generated.lenToBits from rfl,
    lookup_eq_find?]
  rfl

theorem node_eq_eq (a b : Node) : CodeObj5.node_eq a b = nodeEq a b := by
  unfold CodeObj5.node_eq nodeEq
  simp only [parent_fingerprint_eq]
  by_cases hp : a.isPrv = b.isPrv
  · simp [hp]
    rfl
  · simp [hp]

/-- `PubKeyNode.__eq__` (inherited by `PrvKeyNode`) and `BaseWallet.__eq__` -/
theorem eq_methods (a b : Node) (w1 w2 : Wallet) :
    CodeObj5.node_eq a b = nodeEq a b ∧ CodeObj5.w_eq w1 w2 = Extra.walletEq w1 w2 := by
  refine ⟨node_eq_eq a b, ?_⟩
  unfold CodeObj5.w_eq Extra.walletEq
  rw [node_eq_eq]
  simp only [Bool.decide_and, Bool.decide_eq_true, Id.run_pure]
  rfl

private theorem upper_hexDigit : ∀ n < 16, Py.upperAscii (hexDigit n) =
    if 'a' ≤ hexDigit n ∧ hexDigit n ≤ 'f' then Char.ofNat ((hexDigit n).toNat - 32) else hexDigit n := by
  decide

/-- on hex text `str.upper()` moves only `a`–`f` -/
private theorem upper_toHex (bs : Bytes) : (toHex bs).map Py.upperAscii = upperHex (toHex bs) := by
  induction bs with
  | nil => rfl
  | cons b t ih =>
    have := b.toNat_lt
    rw [toHex, List.map_cons, List.map_cons, ih, upper_hexDigit _ (by omega), upper_hexDigit _ (by omega)]
    rfl

variable (P : Prims Pt) (w : Wallet) (indent : Option Nat)

/-- `json`: the generated `data if data else self.generate()` is `Extra.dataOrGenerate` by unfolding -/
theorem json_eq (data : Option Json) : CodeObj5.pw_json P w data indent = Extra.jsonText P w data indent := by
  unfold CodeObj5.pw_json
  rw [(report_eq P w 0 0 20).2.2]
  exact (Option.map_eq_bind (x := Extra.dataOrGenerate P w data)).symm

theorem wasabi_json_eq : CodeObj5.pw_wasabi_json P w indent = Extra.wasabiJsonText P w indent := by
  unfold CodeObj5.pw_wasabi_json Extra.wasabiJsonText wasabi
  simp only [(constructors_eq P w _ [] [] [] [] [] [] false).1, (extended_keys_eq P _ none).1, fingerprint_eq,
    json_eq, upper_toHex]
  -- the model's keys become the character lists the translator prints
  repeat rw [String.toList_ofList]
  simp only [Option.bind_eq_bind, Option.bind_assoc, Option.map_eq_bind]
  rfl

/-- the text layer: `json`, `pprint` (everything written to standard output), `export_wallet` (the file contents),
`wasabi_json`, `export_wasabi` -/
theorem texts_eq (P : Prims Pt) (w : Wallet) (data : Option Json) (indent : Option Nat) (path : List Char) :
    CodeObj5.pw_json P w data indent = Extra.jsonText P w data indent ∧
    CodeObj5.pw_pprint P w data indent = Extra.pprintText P w data indent ∧
    CodeObj5.pw_export_wallet P w path indent data = Extra.exportWalletText P w data indent ∧
    CodeObj5.pw_wasabi_json P w indent = Extra.wasabiJsonText P w indent ∧
    CodeObj5.pw_export_wasabi P w path indent = Extra.wasabiJsonText P w indent := by
  have hg := (report_eq P w 0 0 20).2.2
  refine ⟨json_eq P w indent data, ?_, ?_, wasabi_json_eq P w indent, ?_⟩
  · unfold CodeObj5.pw_pprint
    rw [hg]
    simp only [json_eq]
    exact Option.bind_congr (o := Extra.dataOrGenerate P w data) fun d _ => (Option.map_eq_bind ..).symm
  · unfold CodeObj5.pw_export_wallet
    rw [hg]
    simp only [json_eq]
    exact Option.bind_congr (o := Extra.dataOrGenerate P w data) fun d _ => bind_pure _
  · unfold CodeObj5.pw_export_wasabi
    rw [wasabi_json_eq]
    exact bind_pure _

end BtcHd.TrText
