/-
C08 — New wallets take their entropy from the operating system's random source.

"Creating a new wallet or mnemonic of N words requests at least 32*N/3 bits from the
operating system's cryptographic random source, and its entropy comes from nowhere else
[...].  Every one of the ENT entropy bits, including the most significant one, varies
across fresh wallets, and no two fresh wallets coincide."

In the model (`Model/Bip39.lean`, `Model/Wallet.lean`) the only
source of randomness is the argument `osRandom : Nat → Bytes` — what `os.urandom(n)` returns
(`random = random.SystemRandom()` in `bip39.py`; `SystemRandom.getrandbits` reads
`os.urandom`).  No model function takes the state of a seedable PRNG, a clock or anything
else.  "Requests `r` bytes" is expressed as: the result depends on `osRandom` only through its
value at `r`.  That `os.urandom(r)` returns exactly `r` bytes is a hypothesis on `osRandom`.
-/
import BtcHd.Props.C04
import BtcHd.Model.Wallet

namespace BtcHd.C08
open BtcHd Bip39 Wallet

variable {Pt : Type}

/-- the table word count ↦ entropy bits of the source is 12↦128, 15↦160, 18↦192, 21↦224,
24↦256: `bits = 32·N/3` (and `bits/8 = 4·N/3` bytes), pairing `CORRECT_MNEMONIC_LENGTH` with
`CORRECT_ENTROPY_BITS` in order -/
theorem lenToBits_table :
    Generated.lenToBits = [(12, 128), (15, 160), (18, 192), (21, 224), (24, 256)] ∧
    (∀ e ∈ Generated.lenToBits, e.2 = 32 * e.1 / 3 ∧ e.2 % 8 = 0 ∧ e.2 / 8 = 4 * e.1 / 3 ∧
      sentenceLength e.2 = e.1) ∧
    Generated.lenToBits = Generated.correctMnemonicLength.zip Generated.correctEntropyBits := by
  decide

theorem lookup_bits (n : Nat) :
    (Generated.lenToBits.find? (·.1 = n)).map (·.2) =
      if n ∈ [12, 15, 18, 21, 24] then some (32 * n / 3) else none := by
  by_cases h : n ∈ [12, 15, 18, 21, 24]
  · rw [if_pos h]
    simp only [List.mem_cons, List.not_mem_nil, or_false] at h
    rcases h with rfl | rfl | rfl | rfl | rfl <;> decide
  · rw [if_neg h]
    simp only [List.mem_cons, List.not_mem_nil, or_false, not_or] at h
    obtain ⟨h1, h2, h3, h4, h5⟩ := h
    simp [Generated.lenToBits, Ne.symm h1, Ne.symm h2, Ne.symm h3, Ne.symm h4,
      Ne.symm h5]

private theorem len_facts {n : Nat} (hn : n ∈ [12, 15, 18, 21, 24]) :
    32 * n / 3 ∈ Generated.correctEntropyBits ∧ 32 * n / 3 / 8 = 4 * n / 3 := by
  simp only [List.mem_cons, List.not_mem_nil, or_false] at hn
  rcases hn with rfl | rfl | rfl | rfl | rfl <;> decide

/-- an accepted bit size is a whole number of bytes, of 32-bit groups and of 11-bit words -/
private theorem bits_facts {bits : Nat} (h : bits ∈ Generated.correctEntropyBits) :
    bits % 8 = 0 ∧ bits / 8 * 8 = bits ∧ bits / 8 / 4 = bits / 32 ∧
      bits / 8 * 3 / 4 = sentenceLength bits := by
  have := mem_correctEntropyBits.mp h
  unfold sentenceLength checksumLength
  omega

/-- `SystemRandom.getrandbits(k)` reads the OS source once, for `⌈k/8⌉` bytes: its value
depends on `os.urandom` only through the answer to that request -/
theorem getrandbits_depends (os₁ os₂ : Nat → Bytes) (k : Nat)
    (h : os₁ ((k + 7) / 8) = os₂ ((k + 7) / 8)) : getrandbits os₁ k = getrandbits os₂ k := by
  unfold getrandbits
  simp only [h]

/-- for a whole number of bytes nothing is shifted away: `getrandbits(k)` is the big-endian
value of the `k/8` bytes the OS returned -/
theorem getrandbits_eq (os : Nat → Bytes) (k : Nat) (hk : k % 8 = 0) :
    getrandbits os k = beToNat (os (k / 8)) := by
  unfold getrandbits
  simp only
  have h1 : (k + 7) / 8 = k / 8 := by omega
  have h2 : k / 8 * 8 - k = 0 := by omega
  rw [h1, h2, Nat.shiftRight_zero]

/-- **request size**: `mnemonic_from_entropy_bits(bits)` makes exactly one request to the OS
source, for `bits/8` bytes — i.e. `bits = 32·N/3` bits for an `N`-word sentence — and its
result is a function of the answer alone (any two OS sources that answer this request alike
give the same result, whatever else they would answer) -/
theorem request_size (sha256 : Bytes → Bytes) (os₁ os₂ : Nat → Bytes) (bits : Nat)
    (h : os₁ (bits / 8) = os₂ (bits / 8)) :
    mnemonicFromEntropyBits sha256 os₁ bits = mnemonicFromEntropyBits sha256 os₂ bits := by
  unfold mnemonicFromEntropyBits
  split
  · next hb =>
    rw [getrandbits_eq os₁ bits (bits_facts hb).1, getrandbits_eq os₂ bits (bits_facts hb).1, h]
  · rfl

/-- the number of bits requested for an `N`-word sentence is `8·(bits/8) = bits = 32·N/3` -/
theorem requested_bits (bits : Nat) (h : bits ∈ Generated.correctEntropyBits) :
    8 * (bits / 8) = bits ∧ bits = 32 * sentenceLength bits / 3 ∧
      sentenceLength bits ∈ Generated.correctMnemonicLength := by
  simp only [Generated.correctEntropyBits, List.mem_cons, List.not_mem_nil, or_false] at h
  rcases h with rfl | rfl | rfl | rfl | rfl <;> decide

/-- **the entropy is the OS bytes**: when the OS answers the request for `bits/8` bytes with
that many bytes, the new sentence is `mnemonic_from_entropy` of exactly those bytes (no bit is
dropped, masked or fixed: leading zero bytes survive the integer round trip) -/
theorem entropy_is_os_bytes (sha256 : Bytes → Bytes) (os : Nat → Bytes) (bits : Nat)
    (hb : bits ∈ Generated.correctEntropyBits) (hlen : (os (bits / 8)).length = bits / 8) :
    mnemonicFromEntropyBits sha256 os bits = mnemonicFromEntropy sha256 (toHex (os (bits / 8))) := by
  have hlt := BeFixed.beToNat_lt (os (bits / 8))
  rw [hlen] at hlt
  rw [mnemonicFromEntropyBits, if_pos hb, getrandbits_eq os bits (bits_facts hb).1,
    BeFixed.toBytesBE_eq_some hlt,
    Option.bind_some, BeFixed.beFixed_beToNat hlen]

example : ∃ os : Nat → Bytes, (256 : Nat) ∈ Generated.correctEntropyBits ∧
    (os (256 / 8)).length = 256 / 8 :=
  ⟨fun n => List.replicate n 0xAB, by decide, by simp⟩

private theorem answer_bits {os : Nat → Bytes} {bits : Nat}
    (hb : bits ∈ Generated.correctEntropyBits) (hlen : (os (bits / 8)).length = bits / 8) :
    (os (bits / 8)).length * 8 ∈ Generated.correctEntropyBits := by
  rwa [hlen, (bits_facts hb).2.1]

/-- **the words spell the OS bits**: under the same hypotheses (and 32-byte SHA-256 outputs) a
sentence is produced, it has `N = 3·bits/32` words, and the 11-bit values of its words,
concatenated, are exactly the bits of the OS answer followed by `bits/32` checksum bits -/
theorem words_are_os_bits (sha256 : Bytes → Bytes) (hsha : ∀ x, (sha256 x).length = 32)
    (os : Nat → Bytes) (bits : Nat) (hb : bits ∈ Generated.correctEntropyBits)
    (hlen : (os (bits / 8)).length = bits / 8) :
    ∃ (idx : List Nat) (s : List Char), mnemonicFromEntropyBits sha256 os bits = some s ∧
      Text.splitOn ' ' s = idx.map (fun i => (Official.words[i]!).toList) ∧
      idx.length = sentenceLength bits ∧ (∀ i ∈ idx, i < 2048) ∧
      idx.flatMap (bitsBE 11) =
        bytesBits (os (bits / 8)) ++ (bytesBits (sha256 (os (bits / 8)))).take (bits / 32) ∧
      (idx.flatMap (bitsBE 11)).take bits = bytesBits (os (bits / 8)) := by
  obtain ⟨idx, _, h2, h3, h4, _, h6, h7⟩ := C04.mnemonic_route sha256 hsha _ _
    (C04.fromHex_toHex (os (bits / 8))) (answer_bits hb hlen)
  obtain ⟨_, h8, h32, hN⟩ := bits_facts hb
  rw [hlen] at h2 h4
  rw [h32] at h4
  refine ⟨idx, _, by rw [entropy_is_os_bytes sha256 os bits hb hlen, h6], h7, h2.trans hN, h3, h4, ?_⟩
  rw [h4, List.take_left' (by rw [bytesBits_length, hlen, Nat.mul_comm, h8])]

/-- **injective**: two different OS answers (of the right length) give different sentences -/
theorem injective (sha256 : Bytes → Bytes) (hsha : ∀ x, (sha256 x).length = 32)
    (os₁ os₂ : Nat → Bytes) (bits : Nat) (hb : bits ∈ Generated.correctEntropyBits)
    (h₁ : (os₁ (bits / 8)).length = bits / 8) (h₂ : (os₂ (bits / 8)).length = bits / 8)
    (hne : os₁ (bits / 8) ≠ os₂ (bits / 8)) :
    mnemonicFromEntropyBits sha256 os₁ bits ≠ mnemonicFromEntropyBits sha256 os₂ bits ∧
      (mnemonicFromEntropyBits sha256 os₁ bits).isSome ∧
      (mnemonicFromEntropyBits sha256 os₂ bits).isSome := by
  rw [entropy_is_os_bytes sha256 os₁ bits hb h₁, entropy_is_os_bytes sha256 os₂ bits hb h₂]
  exact ⟨fun heq => hne (C04.mnemonic_lossless sha256 hsha _ _ _ _ (C04.fromHex_toHex _)
      (C04.fromHex_toHex _) (answer_bits hb h₁) (answer_bits hb h₂) heq),
    (C04.mnemonic_isSome_iff sha256 hsha _).mpr ⟨_, C04.fromHex_toHex _, answer_bits hb h₁⟩,
    (C04.mnemonic_isSome_iff sha256 hsha _).mpr ⟨_, C04.fromHex_toHex _, answer_bits hb h₂⟩⟩

example : ∃ os₁ os₂ : Nat → Bytes, (os₁ (128 / 8)).length = 128 / 8 ∧
    (os₂ (128 / 8)).length = 128 / 8 ∧ os₁ (128 / 8) ≠ os₂ (128 / 8) :=
  ⟨fun n => List.replicate n 0, fun n => List.replicate n 1, by simp, by simp, by decide⟩

/-- **every bit varies**: bit `j` (0 = most significant) of the entropy encoded by the new
sentence is bit `j` of the OS answer, for every `j < bits`; so if two OS answers differ in bit
`j`, the entropies of the two sentences differ in bit `j` -/
theorem bit_varies (sha256 : Bytes → Bytes) (hsha : ∀ x, (sha256 x).length = 32)
    (os₁ os₂ : Nat → Bytes) (bits : Nat) (hb : bits ∈ Generated.correctEntropyBits)
    (h₁ : (os₁ (bits / 8)).length = bits / 8) (h₂ : (os₂ (bits / 8)).length = bits / 8)
    (j : Nat) (hj : j < bits)
    (hdiff : (bytesBits (os₁ (bits / 8)))[j]? ≠ (bytesBits (os₂ (bits / 8)))[j]?) :
    ∃ (idx₁ idx₂ : List Nat) (s₁ s₂ : List Char), mnemonicFromEntropyBits sha256 os₁ bits = some s₁ ∧
      mnemonicFromEntropyBits sha256 os₂ bits = some s₂ ∧
      Text.splitOn ' ' s₁ = idx₁.map (fun i => (Official.words[i]!).toList) ∧
      Text.splitOn ' ' s₂ = idx₂.map (fun i => (Official.words[i]!).toList) ∧
      (idx₁.flatMap (bitsBE 11))[j]? = (bytesBits (os₁ (bits / 8)))[j]? ∧
      (idx₂.flatMap (bitsBE 11))[j]? = (bytesBits (os₂ (bits / 8)))[j]? ∧
      (idx₁.flatMap (bitsBE 11))[j]? ≠ (idx₂.flatMap (bitsBE 11))[j]? := by
  obtain ⟨idx₁, s₁, a1, a2, _, _, _, a6⟩ := words_are_os_bits sha256 hsha os₁ bits hb h₁
  obtain ⟨idx₂, s₂, b1, b2, _, _, _, b6⟩ := words_are_os_bits sha256 hsha os₂ bits hb h₂
  have e1 : (idx₁.flatMap (bitsBE 11))[j]? = (bytesBits (os₁ (bits / 8)))[j]? := by
    rw [← a6, List.getElem?_take, if_pos hj]
  have e2 : (idx₂.flatMap (bitsBE 11))[j]? = (bytesBits (os₂ (bits / 8)))[j]? := by
    rw [← b6, List.getElem?_take, if_pos hj]
  exact ⟨idx₁, idx₂, s₁, s₂, a1, b1, a2, b2, e1, e2, by rw [e1, e2]; exact hdiff⟩

/-- the most significant bit is not special: OS answers starting `0x00…` and `0x80…` differ in
bit 0, so (by `bit_varies`) do the entropies of their sentences -/
example : (bytesBits (List.replicate 16 0))[0]? ≠ (bytesBits (0x80 :: List.replicate 15 0))[0]? := by
  decide

/-- **every entropy value is reachable**: for every byte string of the right length there is an
OS answer (that string) whose new sentence encodes exactly it — the map from OS answers to
sentences is the BIP39 encoding itself, with no value excluded -/
theorem every_entropy_reachable (sha256 : Bytes → Bytes) (bits : Nat)
    (hb : bits ∈ Generated.correctEntropyBits) (eb : Bytes) (hlen : eb.length = bits / 8) :
    mnemonicFromEntropyBits sha256 (fun _ => eb) bits = mnemonicFromEntropy sha256 (toHex eb) :=
  entropy_is_os_bytes sha256 (fun _ => eb) bits hb hlen

/-- a bit size other than 128/160/192/224/256 is rejected before the OS source is read -/
theorem bad_bits_rejected (sha256 : Bytes → Bytes) (os : Nat → Bytes) (bits : Nat)
    (h : bits ∉ Generated.correctEntropyBits) : mnemonicFromEntropyBits sha256 os bits = none :=
  if_neg h

theorem bad_len_rejected (P : Prims Pt) (os : Nat → Bytes) (n : Nat) (pw : List Char) (t : Bool)
    (h : n ∉ [12, 15, 18, 21, 24]) : newWallet P os n pw t = none := by
  unfold newWallet
  rw [lookup_bits, if_neg h]
  rfl

example : (13 : Nat) ∉ [12, 15, 18, 21, 24] ∧ (129 : Nat) ∉ Generated.correctEntropyBits := by
  decide

/-- **new wallet**: for `N ∈ {12,15,18,21,24}` words, `new_wallet` requests `4·N/3` bytes
(`32·N/3` bits) from the OS source and, when it gets that many, builds the wallet of
`mnemonic_from_entropy` of exactly those bytes (with the given passphrase and network) -/
theorem newWallet_spec (P : Prims Pt) (os : Nat → Bytes) (n : Nat) (pw : List Char) (t : Bool)
    (hn : n ∈ [12, 15, 18, 21, 24]) (hlen : (os (4 * n / 3)).length = 4 * n / 3) :
    newWallet P os n pw t =
      (mnemonicFromEntropy P.sha256 (toHex (os (4 * n / 3)))).bind fun mn =>
        fromMnemonic P mn pw t := by
  obtain ⟨hb, h8⟩ := len_facts hn
  rw [newWallet, lookup_bits, if_pos hn, Option.bind_some,
    entropy_is_os_bytes P.sha256 os _ hb (by rw [h8]; exact hlen), h8]

/-- `new_wallet` depends on the OS source only through the answer to the one request for
`4·N/3` bytes: the entropy of a fresh wallet comes from nowhere else -/
theorem newWallet_request_size (P : Prims Pt) (os₁ os₂ : Nat → Bytes) (n : Nat) (pw : List Char)
    (t : Bool) (h : os₁ (4 * n / 3) = os₂ (4 * n / 3)) :
    newWallet P os₁ n pw t = newWallet P os₂ n pw t := by
  unfold newWallet
  rw [lookup_bits]
  split
  · next hn =>
    rw [Option.bind_some, Option.bind_some,
      request_size P.sha256 os₁ os₂ (32 * n / 3) (by rw [(len_facts hn).2]; exact h)]
  · rfl

/-- a fresh wallet remembers the sentence spelled by the OS bytes and is built from its seed:
two OS answers of the right length that differ give wallets with different mnemonics -/
theorem newWallet_distinct (P : Prims Pt) (hsha : ∀ x, (P.sha256 x).length = 32)
    (os₁ os₂ : Nat → Bytes) (n : Nat) (pw : List Char) (t : Bool) (hn : n ∈ [12, 15, 18, 21, 24])
    (h₁ : (os₁ (4 * n / 3)).length = 4 * n / 3) (h₂ : (os₂ (4 * n / 3)).length = 4 * n / 3)
    (hne : os₁ (4 * n / 3) ≠ os₂ (4 * n / 3)) (w₁ w₂ : Wallet)
    (hw₁ : newWallet P os₁ n pw t = some w₁) (hw₂ : newWallet P os₂ n pw t = some w₂) :
    w₁.mnemonic ≠ w₂.mnemonic ∧ w₁ ≠ w₂ := by
  rw [newWallet_spec P os₁ n pw t hn h₁] at hw₁
  rw [newWallet_spec P os₂ n pw t hn h₂] at hw₂
  obtain ⟨m₁, hm₁, hw₁⟩ := Option.bind_eq_some_iff.mp hw₁
  obtain ⟨m₂, hm₂, hw₂⟩ := Option.bind_eq_some_iff.mp hw₂
  unfold fromMnemonic at hw₁ hw₂
  obtain ⟨v₁, _, rfl⟩ := Option.map_eq_some_iff.mp hw₁
  obtain ⟨v₂, _, rfl⟩ := Option.map_eq_some_iff.mp hw₂
  obtain ⟨hb, h8⟩ := len_facts hn
  rw [← h8] at h₁ h₂ hne hm₁ hm₂
  have : (some m₁ : Option (List Char)) ≠ some m₂ := fun e => hne
    (C04.mnemonic_lossless P.sha256 hsha _ _ _ _ (C04.fromHex_toHex _) (C04.fromHex_toHex _)
      (answer_bits hb h₁) (answer_bits hb h₂) (by rw [hm₁, hm₂, e]))
  exact ⟨this, fun e => this (congrArg Wallet.mnemonic e)⟩

end BtcHd.C08
