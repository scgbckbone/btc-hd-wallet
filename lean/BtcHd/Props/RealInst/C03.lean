/- C03 at the concrete primitives (see `RealInst/Common.lean`): re-import of the exported master key. -/
import BtcHd.Props.RealInst.Common
import BtcHd.Props.C03

namespace BtcHd.RealInst
open BtcHd BtcHd.Real.Secp Bip32 XKey Keys Wallet Path

variable (nfkd : List Char → List Char)

theorem real_xprv_reimport (s : Bytes) (t : Bool) (w : Wallet) (x : List Char)
    (hw : fromSeedBytes (RP nfkd) s t = some w)
    (hx : extendedPrivateKey (RP nfkd) w.master none = some x) :
    ∃ w', fromExtendedKey (RP nfkd) x = some w' ∧ nodeEq w'.master w.master = true ∧
      w'.testnet = t ∧ w'.master.isPrv = true ∧ w'.master.chainCode = w.master.chainCode ∧
      beToNat w'.master.key = beToNat w.master.key ∧ w'.mnemonic = none ∧ w'.password = none :=
  C03.xprv_reimport (RP nfkd) RealCurve.real_curveLaws (hash256_len nfkd) Real.hmacSha512_length s t w x hw hx

theorem real_xprv_reimport_mnemonic (mn pw : List Char) (t : Bool) (w : Wallet) (x : List Char)
    (hw : fromMnemonic (RP nfkd) mn pw t = some w)
    (hx : extendedPrivateKey (RP nfkd) w.master none = some x) :
    ∃ w', fromExtendedKey (RP nfkd) x = some w' ∧ nodeEq w'.master w.master = true ∧
      w'.testnet = t ∧ w'.master.isPrv = true :=
  C03.xprv_reimport_mnemonic (RP nfkd) RealCurve.real_curveLaws (hash256_len nfkd) Real.hmacSha512_length
    mn pw t w x hw hx

end BtcHd.RealInst
