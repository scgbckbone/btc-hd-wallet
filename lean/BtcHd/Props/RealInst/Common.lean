/-
RealInst — the theorems of C03, C05, C07, C09 and C14 that carry curve hypotheses (`CurveLaws`, `C02.GroupLaws`)
or hash-length hypotheses, INSTANTIATED at the concrete primitives the driver runs (`vPrims nfkd`: the Lean
SHA-256 / HMAC-SHA512 / PBKDF2 and the secp256k1 of `Prims/Secp256k1.lean` on its valid points), one file
`Props/RealInst/Cxx.lean` per property.  Every hypothesis about the primitives is discharged by a theorem
(`RealCurve.real_curveLaws`, `RealCurve.real_groupLaws`, `Real.sha256_length`, `Real.hmacSha512_length`); what
remains is the well-formedness of the node and the property's own premises.  These are statements about the
very functions whose outputs the correspondence run compares with CPython / OpenSSL / python-ecdsa on every
case (`RealCurve.vCurve_agrees`, `RealCurve.raw_agrees`).
-/
import BtcHd.Props.RealCurve

namespace BtcHd.RealInst
open BtcHd BtcHd.Real.Secp

variable (nfkd : List Char → List Char)

/-- the driver's primitives, on valid points -/
abbrev RP : Prims VPt := vPrims nfkd

theorem hash256_len (x : Bytes) : 4 ≤ ((RP nfkd).hash256 x).length := by
  show 4 ≤ (Real.sha256 (Real.sha256 x)).length
  rw [Real.sha256_length]; decide

end BtcHd.RealInst
