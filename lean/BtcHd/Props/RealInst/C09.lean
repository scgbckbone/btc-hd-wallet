/- C09 at the concrete primitives (see `RealInst/Common.lean`): SEC encodings of the concrete curve. -/
import BtcHd.Props.RealInst.Common
import BtcHd.Props.C09

namespace BtcHd.RealInst
open BtcHd BtcHd.Real.Secp Bip32 XKey Keys

variable (nfkd : List Char → List Char)

theorem real_sec_roundtrip (k : Nat) (h1 : 1 ≤ k) (h2 : k < Real.Secp.n) :
    (∀ c, vCurve.parse (vCurve.sec c (vCurve.mulGen k)) = some (vCurve.mulGen k)) ∧
      (vCurve.sec true (vCurve.mulGen k)).length = 33 ∧
      ((vCurve.sec true (vCurve.mulGen k)).head? = some 2 ∨
        (vCurve.sec true (vCurve.mulGen k)).head? = some 3) :=
  C09.sec_roundtrip RealCurve.real_curveLaws k h1 h2

theorem real_sec_roundtrip_point :
    (∀ c pt, ¬ vCurve.isInf pt → vCurve.parse (vCurve.sec c pt) = some pt) ∧
      (∀ bs pt, bs.length = 33 → vCurve.parse bs = some pt →
        vCurve.sec true pt = bs ∧ ¬ vCurve.isInf pt) :=
  C09.sec_roundtrip_point RealCurve.real_curveLaws

theorem real_pub_is_kG_wf {nd : Node} (hwf : nd.WF (RP nfkd)) (hprv : nd.isPrv = true) :
    1 ≤ beToNat nd.key ∧ beToNat nd.key < Real.Secp.n ∧
      prvKey (RP nfkd) nd = some (beToNat nd.key) ∧
      pubKey (RP nfkd) nd = some (vCurve.mulGen (beToNat nd.key)) ∧
      ¬ vCurve.isInf (vCurve.mulGen (beToNat nd.key)) :=
  C09.pub_is_kG_wf RealCurve.real_curveLaws hwf hprv

end BtcHd.RealInst
