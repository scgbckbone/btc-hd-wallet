/- C14 at the concrete primitives (see `RealInst/Common.lean`): watch-only wallets over the concrete primitives. -/
import BtcHd.Props.RealInst.Common
import BtcHd.Props.C14

namespace BtcHd.RealInst
open BtcHd BtcHd.Real.Secp Bip32 XKey Keys Wallet WatchOnly Path Script

variable (nfkd : List Char → List Char)

theorem real_wo_no_scalar (c : Node) (hwf : c.WF (RP nfkd)) (hc : c.isPrv = false) :
    prvKey (RP nfkd) c = none :=
  C14.wo_no_scalar (RP nfkd) RealCurve.real_curveLaws c hwf hc

theorem real_wo_no_bip85_entropy (w : Wallet) (hw : w.watchOnly = true)
    (hwf : w.master.WF (RP nfkd)) :
    (∀ path, Bip85.entropy (RP nfkd) w.master path = none) ∧
      (∀ wc i, Bip85.bip39Mnemonic (RP nfkd) w.master wc i = none) ∧
      (∀ i, Bip85.wif (RP nfkd) w.master i = none) ∧ (∀ i, Bip85.xprv (RP nfkd) w.master i = none) ∧
      (∀ n i, Bip85.hex (RP nfkd) w.master n i = none) ∧
      (∀ n i, Bip85.pwd (RP nfkd) w.master n i = none) :=
  C14.wo_no_bip85_entropy (RP nfkd) RealCurve.real_curveLaws w hw hwf

theorem real_wo_public (N : Node) (k : Nat) (hp : N.isPrv = true)
    (hk : prvKey (RP nfkd) N = some k) (is : List Nat) (his : ∀ i ∈ is, i < 2 ^ 31)
    (hIL : NoZeroIL (RP nfkd) N is) :
    (derivePath (RP nfkd) N is).bind (C02.neuter (RP nfkd)) =
      (C02.neuter (RP nfkd) N).bind (derivePath (RP nfkd) · is) :=
  C14.wo_public (RP nfkd) (RealCurve.real_groupLaws nfkd) N k hp hk is his hIL

theorem real_wo_import_roundtrip (N : Node) (hwf : N.WF (RP nfkd)) (hvalid : BIP32valid N)
    (v : Nat) (hv : v ∈ publicVersions) (s : List Char)
    (hs : extendedPublicKey (RP nfkd) N (some v) = some s) :
    ∃ w nn, fromExtendedKey (RP nfkd) s = some w ∧ Bip32.neuter (RP nfkd) N = some nn ∧
      w.watchOnly = true ∧ w.testnet = decide (v ∈ testnetPublicVersions) ∧
      w.master.testnet = w.testnet ∧ w.mnemonic = none ∧ w.password = none ∧
      w.master.isPrv = false ∧ w.master.key = nn.key ∧ w.master.chainCode = nn.chainCode ∧
      w.master.depth = nn.depth ∧ w.master.index = nn.index ∧
      parentFingerprint w.master = parentFingerprint nn ∧
      nodeEq w.master { nn with testnet := w.testnet } = true ∧
      w.master.hasParent = false ∧ w.master.path = [] ∧ w.master.parsedVersion = some v ∧
      w.master.WF (RP nfkd) ∧ BIP32valid w.master :=
  C14.wo_import_roundtrip (RP nfkd) RealCurve.real_curveLaws (hash256_len nfkd) N hwf hvalid v hv s hs

theorem real_wo_wallet_agrees (N : Node) (hwf : N.WF (RP nfkd)) (hvalid : BIP32valid N)
    (hp : N.isPrv = true) (v : Nat) (hv : v ∈ publicVersions) (s : List Char)
    (hs : extendedPublicKey (RP nfkd) N (some v) = some s) :
    ∃ w, fromExtendedKey (RP nfkd) s = some w ∧ w.watchOnly = true ∧
      w.testnet = decide (v ∈ testnetPublicVersions) ∧
      ∀ is, (∀ i ∈ is, i < 2 ^ 31) → NoZeroIL (RP nfkd) N is →
        (∀ c, derivePath (RP nfkd) N is = some c →
          ∃ c', derivePath (RP nfkd) w.master is = some c' ∧ c'.isPrv = false ∧
            SamePublic (RP nfkd) c' c) ∧
        (∀ c', derivePath (RP nfkd) w.master is = some c' →
          ∃ c, derivePath (RP nfkd) N is = some c ∧ c'.isPrv = false ∧
            SamePublic (RP nfkd) c' c) :=
  C14.wo_wallet_agrees (RP nfkd) RealCurve.real_curveLaws (RealCurve.real_groupLaws nfkd)
    (hash256_len nfkd) N hwf hvalid hp v hv s hs

theorem real_wo_wallet_agrees_public (N : Node) (hwf : N.WF (RP nfkd)) (hvalid : BIP32valid N)
    (hp : N.isPrv = false) (v : Nat) (hv : v ∈ publicVersions) (s : List Char)
    (hs : extendedPublicKey (RP nfkd) N (some v) = some s) :
    ∃ w, fromExtendedKey (RP nfkd) s = some w ∧ w.watchOnly = true ∧
      ∀ is, (derivePath (RP nfkd) w.master is).map view = (derivePath (RP nfkd) N is).map view :=
  C14.wo_wallet_agrees_public (RP nfkd) RealCurve.real_curveLaws (hash256_len nfkd) N hwf hvalid hp v hv
    s hs

theorem real_wo_wallet_agrees_addresses (W : Wallet) (N : Node) (hwf : N.WF (RP nfkd))
    (hvalid : BIP32valid N) (hp : N.isPrv = true) (s : List Char)
    (hs : nodeExtendedPublicKey (RP nfkd) W N = some s) :
    ∃ w, fromExtendedKey (RP nfkd) s = some w ∧ w.watchOnly = true ∧ w.testnet = W.testnet ∧
      ∀ is, (∀ i ∈ is, i < 2 ^ 31) → NoZeroIL (RP nfkd) N is → ∀ c c',
        derivePath (RP nfkd) N is = some c → derivePath (RP nfkd) w.master is = some c' →
          p2pkhAddress (RP nfkd) w.testnet c' = p2pkhAddress (RP nfkd) W.testnet c ∧
          p2wpkhAddress (RP nfkd) w.testnet c' = p2wpkhAddress (RP nfkd) W.testnet c ∧
          p2shP2wpkhAddress (RP nfkd) w.testnet c' = p2shP2wpkhAddress (RP nfkd) W.testnet c ∧
          p2wshAddress (RP nfkd) w.testnet c' = p2wshAddress (RP nfkd) W.testnet c ∧
          p2shP2wshAddress (RP nfkd) w.testnet c' = p2shP2wshAddress (RP nfkd) W.testnet c :=
  C14.wo_wallet_agrees_addresses (RP nfkd) RealCurve.real_curveLaws (RealCurve.real_groupLaws nfkd)
    (hash256_len nfkd) W N hwf hvalid hp s hs

end BtcHd.RealInst
