/- C05 at the concrete primitives (see `RealInst/Common.lean`): the P2PKH and P2WPKH clauses of
`C05.addresses_of_wf`, with the concrete SHA-256 / RIPEMD-160 / curve.  The P2SH-P2WPKH, P2WSH and P2SH-P2WSH
clauses of that theorem are not restated here. -/
import BtcHd.Props.RealInst.Common
import BtcHd.Props.C05

namespace BtcHd.RealInst
open BtcHd BtcHd.Real.Secp Bip32 Keys Wallet Script

variable (nfkd : List Char → List Char)

theorem real_addresses_of_wf (t : Bool) (nd : Node) (hwf : nd.WF (RP nfkd)) :
    ∃ K, pubKey (RP nfkd) nd = some K ∧
      (∃ a, p2pkhAddress (RP nfkd) t nd = some a ∧ Base58.decodeCheck (RP nfkd).hash256 a =
        some ([if t then 0x6f else 0x00] ++ hash160 (RP nfkd) (vCurve.sec true K))) ∧
      (∃ a, p2wpkhAddress (RP nfkd) t nd = some a ∧
        Bech32.decode (if t then "tb" else "bc").toList a =
          some (0, (hash160 (RP nfkd) (vCurve.sec true K)).map (·.toNat))) :=
  let ⟨K, hK, h1, h2, _⟩ := C05.addresses_of_wf (RP nfkd) Real.sha256_length RealCurve.real_curveLaws t nd hwf
  ⟨K, hK, h1, h2⟩

end BtcHd.RealInst
