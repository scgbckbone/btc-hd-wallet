/- C07 at the concrete primitives (see `RealInst/Common.lean`): extended keys round-trip (no curve hypothesis left). -/
import BtcHd.Props.RealInst.Common
import BtcHd.Props.C07

namespace BtcHd.RealInst
open BtcHd BtcHd.Real.Secp Bip32 XKey Keys Wallet Path

variable (nfkd : List Char → List Char)

theorem real_serialize_length_private {nd : Node} (hwf : nd.WF (RP nfkd)) (hprv : nd.isPrv = true)
    (version : Option Nat) (hv : version.getD (prvVersion nd) < 2 ^ 32) :
    ∃ ser, serializePrivate (RP nfkd) nd version = some ser ∧ ser.length = 78 :=
  C07.serialize_length_private RealCurve.real_curveLaws hwf hprv version hv

theorem real_serialize_length_public {nd : Node} (hwf : nd.WF (RP nfkd))
    (version : Option Nat) (hv : version.getD (pubVersion nd) < 2 ^ 32) :
    ∃ ser, serializePublic (RP nfkd) nd version = some ser ∧ ser.length = 78 :=
  C07.serialize_length_public RealCurve.real_curveLaws hwf version hv

theorem real_xprv_roundtrip {nd : Node} (hwf : nd.WF (RP nfkd)) (hvalid : BIP32valid nd)
    (version : Option Nat) (s : List Char)
    (hs : extendedPrivateKey (RP nfkd) nd version = some s) :
    ∃ nd', parseStr (RP nfkd) true nd.testnet s = some nd' ∧ nodeEq nd' nd = true ∧
      nd'.parsedVersion = some (version.getD (prvVersion nd)) ∧
      extendedPrivateKey (RP nfkd) nd' version = some s ∧
      (version.getD (prvVersion nd) ∈ allVersions → s.length = 111) :=
  C07.xprv_roundtrip RealCurve.real_curveLaws (hash256_len nfkd) hwf hvalid version s hs

theorem real_xpub_roundtrip {nd : Node} (hwf : nd.WF (RP nfkd)) (hvalid : BIP32valid nd)
    (version : Option Nat) (s : List Char)
    (hs : extendedPublicKey (RP nfkd) nd version = some s) :
    ∃ nd', parseStr (RP nfkd) false nd.testnet s = some nd' ∧
      (∃ nn, neuter (RP nfkd) nd = some nn ∧ nodeEq nd' nn = true) ∧
      (nd.isPrv = false → nodeEq nd' nd = true) ∧
      nd'.parsedVersion = some (version.getD (pubVersion nd)) ∧
      extendedPublicKey (RP nfkd) nd' version = some s ∧
      (version.getD (pubVersion nd) ∈ allVersions → s.length = 111) :=
  C07.xpub_roundtrip RealCurve.real_curveLaws (hash256_len nfkd) hwf hvalid version s hs

theorem real_parse_serialize_prv_iff {nd : Node} (hwf : nd.WF (RP nfkd)) (version : Option Nat)
    (ser : Bytes) (hs : serializePrivate (RP nfkd) nd version = some ser) :
    nodeEq (parseBytes true nd.testnet ser) nd = true ↔
      (isMaster nd = true → parentFingerprint nd = [0, 0, 0, 0]) :=
  C07.parse_serialize_prv_iff RealCurve.real_curveLaws hwf version ser hs

theorem real_reserialize_prv {nd : Node} (hwf : nd.WF (RP nfkd)) (hvalid : BIP32valid nd)
    (version : Option Nat) (ser : Bytes) (hs : serializePrivate (RP nfkd) nd version = some ser) :
    serializePrivate (RP nfkd) (parseBytes true nd.testnet ser) version = some ser ∧
      (parseBytes true nd.testnet ser).WF (RP nfkd) ∧ BIP32valid (parseBytes true nd.testnet ser) :=
  C07.reserialize_prv RealCurve.real_curveLaws hwf hvalid version ser hs

theorem real_reserialize_pub {nd : Node} (hwf : nd.WF (RP nfkd)) (hvalid : BIP32valid nd)
    (version : Option Nat) (ser : Bytes) (hs : serializePublic (RP nfkd) nd version = some ser) :
    serializePublic (RP nfkd) (parseBytes false nd.testnet ser) version = some ser ∧
      (parseBytes false nd.testnet ser).WF (RP nfkd) ∧ BIP32valid (parseBytes false nd.testnet ser) :=
  C07.reserialize_pub RealCurve.real_curveLaws hwf hvalid version ser hs

theorem real_public_factors {nd : Node} {k : Nat} (hprv : nd.isPrv = true)
    (hk : prvKey (RP nfkd) nd = some k) (version : Option Nat) :
    serializePublic (RP nfkd) nd version
        = serializeWith nd (vCurve.sec true (vCurve.mulGen k)) (version.getD (pubVersion nd)) ∧
      ∃ nn, neuter (RP nfkd) nd = some nn ∧ nn.isPrv = false ∧
        nn.key = vCurve.sec true (vCurve.mulGen k) ∧
        serializePublic (RP nfkd) nn version = serializePublic (RP nfkd) nd version :=
  C07.public_factors RealCurve.real_curveLaws hprv hk version

end BtcHd.RealInst
