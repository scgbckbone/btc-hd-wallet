/-
C15 — the paranoia filter.

"For every wallet, the paranoia-filtered output contains no mnemonic, passphrase, BIP85 value,
extended private key or WIF […].  Every path, address, public key and extended public key in it is
identical to the unfiltered output."

`paranoia` / `paranoiaEntry` (`Model/Wallet.lean`) mirror `paranoia_mode` of `__main__.py`; the
report is the value of `generate` (C06).  The statements speak of `leaves j` (all string / null
values of a JSON value, at any depth) and `j.getPath p` (`j[k₁][k₂]…`), both of `Lemmas/Json.lean`,
and of an account block as a record `Acct` with rows `Row` (`Lemmas/Wallet.lean`).
-/
import BtcHd.Lemmas.Paranoia
import BtcHd.Props.C06

namespace BtcHd.C15
open BtcHd Bip32 Wallet Keys Basics

variable {Pt : Type}

/-- the keys `paranoia_mode` keeps are `BIP44`, `BIP49`, `BIP84` -/
theorem paranoia_keys :
    Generated.paranoiaKeys = ["BIP44".toList, "BIP49".toList, "BIP84".toList] := by
  repeat rw [String.toList_ofList]
  rfl

/-- the filter applied to a generated report succeeds, and its result is the
dictionary `BIP44`, `BIP49`, `BIP84` (no `MASTER`, no `BIP85`) whose entries are
`{"account_extended_keys": {"path": …, "pub": …}, "groups": rows}` — the very `path` and `pub`
strings of the unfiltered block (no `prv`) and every unfiltered row `[path, address, sec, wif]`
cut down to `[path, address, sec]` -/
theorem paranoia_shape {P : Prims Pt} {w : Wallet} {acct a b : Nat} {j : Json}
    (h : generate P w acct a b = some j) :
    ∃ (b85 : Json) (v44 v49 v84 : Acct),
      j = .obj [("MASTER".toList, masterData w), ("BIP85".toList, b85),
        ("BIP44".toList, .obj [("account_extended_keys".toList,
            .obj [("path".toList, .str v44.path), ("pub".toList, .str v44.pub),
                  ("prv".toList, optStr v44.prv)]),
          ("groups".toList, .arr (v44.rows.map fun r =>
            .arr [.str r.path, .str r.addr, .str r.sec, optStr r.wif]))]),
        ("BIP49".toList, .obj [("account_extended_keys".toList,
            .obj [("path".toList, .str v49.path), ("pub".toList, .str v49.pub),
                  ("prv".toList, optStr v49.prv)]),
          ("groups".toList, .arr (v49.rows.map fun r =>
            .arr [.str r.path, .str r.addr, .str r.sec, optStr r.wif]))]),
        ("BIP84".toList, .obj [("account_extended_keys".toList,
            .obj [("path".toList, .str v84.path), ("pub".toList, .str v84.pub),
                  ("prv".toList, optStr v84.prv)]),
          ("groups".toList, .arr (v84.rows.map fun r =>
            .arr [.str r.path, .str r.addr, .str r.sec, optStr r.wif]))])] ∧
      v44.rows.length = b - a ∧ v49.rows.length = b - a ∧ v84.rows.length = b - a ∧
      paranoia j = some (.obj [
        ("BIP44".toList, .obj [("account_extended_keys".toList,
            .obj [("path".toList, .str v44.path), ("pub".toList, .str v44.pub)]),
          ("groups".toList, .arr (v44.rows.map fun r => .arr [.str r.path, .str r.addr, .str r.sec]))]),
        ("BIP49".toList, .obj [("account_extended_keys".toList,
            .obj [("path".toList, .str v49.path), ("pub".toList, .str v49.pub)]),
          ("groups".toList, .arr (v49.rows.map fun r => .arr [.str r.path, .str r.addr, .str r.sec]))]),
        ("BIP84".toList, .obj [("account_extended_keys".toList,
            .obj [("path".toList, .str v84.path), ("pub".toList, .str v84.pub)]),
          ("groups".toList, .arr (v84.rows.map fun r => .arr [.str r.path, .str r.addr, .str r.sec]))])]) := by
  obtain ⟨b85, v44, v49, v84, _, rfl, hl, hp⟩ := generate_paranoia h
  exact ⟨b85, v44, v49, v84, rfl, hl v44 (by simp), hl v49 (by simp), hl v84 (by simp), hp⟩

example : ∃ j, generate Toy.primsW (Toy.walletW true) 1 2 4 = some j := Toy.generate_toy

/-- whenever a report is generated, the filter succeeds on it -/
theorem paranoia_total {P : Prims Pt} {w : Wallet} {acct a b : Nat} {j : Json}
    (h : generate P w acct a b = some j) : (paranoia j).isSome = true :=
  paranoia_isSome_of_generate h

/-- non-vacuity of the hypotheses used below: a generated report and its filtered form exist -/
example : ∃ j j', generate Toy.primsW (Toy.walletW true) 1 2 4 = some j ∧ paranoia j = some j' ∧
    (Toy.walletW true).master.path = [] := by
  obtain ⟨j, hj⟩ := Toy.generate_toy
  obtain ⟨j', hj'⟩ := Option.isSome_iff_exists.mp (paranoia_total hj)
  exact ⟨j, j', hj, hj', rfl⟩

/-- the string / null values occurring anywhere in the filtered report are
exactly, in order and for BIP44, BIP49, BIP84 in turn, the `publicLeaves` of the block: the
account path, the account extended public key, and for every row its path, address and SEC hex
(`Acct.publicLeaves`, `Row.publicLeaves`).  None of them is `null`.  The unfiltered report has
in addition the mnemonic, the passphrase, the BIP85 values, and per block the extended private key
and per row the WIF (`Acct.allLeaves`). -/
theorem paranoia_leaves {P : Prims Pt} {w : Wallet} {acct a b : Nat} {j j' : Json}
    (h : generate P w acct a b = some j) (h' : paranoia j = some j') :
    ∃ (b85 : Json) (v44 v49 v84 : Acct),
      leaves j' = v44.publicLeaves ++ v49.publicLeaves ++ v84.publicLeaves ∧
      (∀ l ∈ leaves j', ∃ s, l = Sum.inl s) ∧
      leaves j = leaves (optStr w.mnemonic) ++ leaves (optStr w.password) ++ leaves b85 ++
        v44.allLeaves ++ v49.allLeaves ++ v84.allLeaves := by
  obtain ⟨b85, v44, v49, v84, _, rfl, _, hp⟩ := generate_paranoia h
  cases hp.symm.trans h'
  refine ⟨b85, v44, v49, v84, leaves_public_report .., fun l hl => ?_,
    by simp [leaves_obj, leaves_acct, masterData]⟩
  simp only [leaves_public_report, List.mem_append] at hl
  rcases hl with (hl | hl) | hl <;>
    rcases mem_publicLeaves.1 hl with e | e | ⟨r, _, e | e | e⟩ <;> exact ⟨_, e⟩

/-- the public leaves of a block, spelled out -/
theorem publicLeaves_def (v : Acct) :
    v.publicLeaves = (Sum.inl v.path : Leaf) :: Sum.inl v.pub ::
      v.rows.flatMap fun r => [(Sum.inl r.path : Leaf), Sum.inl r.addr, Sum.inl r.sec] := rfl

/-! ### What is unchanged and what is gone, by key -/

/-- under each of `BIP44`, `BIP49`, `BIP84`, the entries
`account_extended_keys.path`, `account_extended_keys.pub` and, for every row `i` of the interval,
the columns 0, 1, 2 (path, address, sec) are present in the filtered report and are the very same
strings as in the unfiltered one -/
theorem paranoia_public_unchanged {P : Prims Pt} {w : Wallet} {acct a b : Nat} {j j' : Json}
    (h : generate P w acct a b = some j) (h' : paranoia j = some j') :
    ∀ K ∈ Generated.paranoiaKeys,
      (∀ f ∈ ["path".toList, "pub".toList], ∃ s,
        j.getPath [.inl K, .inl "account_extended_keys".toList, .inl f] = some (.str s) ∧
        j'.getPath [.inl K, .inl "account_extended_keys".toList, .inl f] = some (.str s)) ∧
      ∀ i, i < b - a → ∀ c, c < 3 → ∃ s,
        j.getPath [.inl K, .inl "groups".toList, .inr i, .inr c] = some (.str s) ∧
        j'.getPath [.inl K, .inl "groups".toList, .inr i, .inr c] = some (.str s) := by
  obtain ⟨b85, v44, v49, v84, _, rfl, hl, hp⟩ := generate_paranoia h
  cases hp.symm.trans h'
  intro K hK
  obtain ⟨v, hv, s, s'⟩ := report_step (masterData w) b85 v44 v49 v84 hK
  exact ⟨fun f hf => SameStrAt.step s s' ((acct_keys v).1 f hf),
    fun i hi c hc => SameStrAt.step s s' ((acct_rows v (hl v hv ▸ hi)).1 c hc)⟩

/-- the filtered report has no `MASTER` entry (mnemonic,
passphrase), no `BIP85` entry, under each account block no `prv` entry, and no fourth column
(WIF) in any row — all of which the unfiltered report has -/
theorem paranoia_secrets_removed {P : Prims Pt} {w : Wallet} {acct a b : Nat} {j j' : Json}
    (h : generate P w acct a b = some j) (h' : paranoia j = some j') :
    (j.getPath [.inl "MASTER".toList] = some (masterData w) ∧ j'.getPath [.inl "MASTER".toList] = none) ∧
    (j.getPath [.inl "BIP85".toList] = bip85Data P w ∧ j'.getPath [.inl "BIP85".toList] = none) ∧
    ∀ K ∈ Generated.paranoiaKeys,
      ((j.getPath [.inl K, .inl "account_extended_keys".toList, .inl "prv".toList]).isSome = true ∧
        j'.getPath [.inl K, .inl "account_extended_keys".toList, .inl "prv".toList] = none) ∧
      ∀ i, i < b - a →
        (j.getPath [.inl K, .inl "groups".toList, .inr i, .inr 3]).isSome = true ∧
        j'.getPath [.inl K, .inl "groups".toList, .inr i, .inr 3] = none := by
  obtain ⟨b85, v44, v49, v84, h85, rfl, hl, hp⟩ := generate_paranoia h
  cases hp.symm.trans h'
  refine ⟨(report_removed ..).1, h85 ▸ (report_removed ..).2, fun K hK => ?_⟩
  obtain ⟨v, hv, s, s'⟩ := report_step (masterData w) b85 v44 v49 v84 hK
  exact ⟨RemovedAt.step s s' (acct_keys v).2,
    fun i hi => RemovedAt.step s s' (acct_rows v (hl v hv ▸ hi)).2⟩

/-! ### Every remaining leaf is public data (with C06) -/

/-- what a leaf of the filtered report can be, for the account block of one purpose -/
private def PublicLeaf (P : Prims Pt) (w : Wallet) (purpose : Nat) (keyAddr : Pt → Option (List Char))
    (acct a b : Nat) (s : List Char) : Prop :=
  s = Path.format ⟨acctLevels w purpose acct, true⟩ ∨
  (∃ acctNd, derivePath P w.master (acctLevels w purpose acct) = some acctNd ∧
    nodeExtendedPublicKey P w acctNd = some s) ∨
  ∃ i, i < b - a ∧ ∃ nd k, derivePath P w.master (rowLevels w purpose acct (a + i)) = some nd ∧
    prvKey P nd = some k ∧
    (s = Path.format ⟨rowLevels w purpose acct (a + i), true⟩ ∨
      keyAddr (P.curve.mulGen k) = some s ∨
      s = toHex (P.curve.sec true (P.curve.mulGen k)))

private theorem publicLeaf_of_ok {P : Prims Pt} {w : Wallet} {purpose : Nat}
    {keyAddr : Pt → Option (List Char)} {acct a b : Nat} {v : Acct}
    (ok : AcctOk P w purpose keyAddr acct a b v) {l : Leaf} (hl : l ∈ v.publicLeaves) :
    ∃ s, l = .inl s ∧ PublicLeaf P w purpose keyAddr acct a b s := by
  obtain ⟨⟨acctNd, xprv, h1, h2, h3, _, _⟩, hlen, hrows⟩ := ok
  rcases mem_publicLeaves.1 hl with rfl | rfl | ⟨r, hr, hl⟩
  · exact ⟨_, rfl, Or.inl h2⟩
  · exact ⟨_, rfl, Or.inr (Or.inl ⟨acctNd, h1, h3⟩)⟩
  · obtain ⟨i, hi, hri⟩ := List.mem_iff_getElem.mp hr
    have hi' : i < b - a := by omega
    obtain ⟨nd, k, ad, g1, g2, g3, g4⟩ := hrows i hi'
    rw [List.getElem?_eq_getElem hi, hri, Option.some.injEq] at g4
    subst g4
    rcases hl with rfl | rfl | rfl <;>
      refine ⟨_, rfl, .inr (.inr ⟨i, hi', nd, k, g1, g2, ?_⟩)⟩
    · exact .inl rfl
    · exact .inr (.inl g3)
    · exact .inr (.inr rfl)

/-- every value left in the filtered report of a wallet (master a root
object) is a string that is, for one of the purposes 44 / 49 / 84: the printed account path
`m/purpose'/coin'/account'`; or the account node's extended *public* key as the wallet prints it;
or, for a row index `i` of the interval and the private key `k` at
`m/purpose'/coin'/account'/0/(a+i)`: the printed row path, the address of the *public* key `k·G`,
or the hex of the compressed SEC of `k·G`.  So every leaf is one of these public strings; nothing is said
about a secret that happens to equal one of them (a passphrase chosen as `m/44'/0'/0'` does occur). -/
theorem paranoia_only_public {P : Prims Pt} {w : Wallet} {acct a b : Nat} {j j' : Json}
    (hroot : w.master.path = []) (h : generate P w acct a b = some j)
    (h' : paranoia j = some j') :
    ∀ l ∈ leaves j', ∃ s, l = .inl s ∧
      ((s = Path.format
            ⟨[44 + 2 ^ 31, (if w.testnet then 1 else 0) + 2 ^ 31, acct + 2 ^ 31], true⟩ ∨
          (∃ acctNd, derivePath P w.master
              [44 + 2 ^ 31, (if w.testnet then 1 else 0) + 2 ^ 31, acct + 2 ^ 31] = some acctNd ∧
            nodeExtendedPublicKey P w acctNd = some s) ∨
          ∃ i, i < b - a ∧ ∃ nd k, derivePath P w.master
              [44 + 2 ^ 31, (if w.testnet then 1 else 0) + 2 ^ 31, acct + 2 ^ 31, 0, a + i] = some nd ∧
            prvKey P nd = some k ∧
            (s = Path.format
                ⟨[44 + 2 ^ 31, (if w.testnet then 1 else 0) + 2 ^ 31, acct + 2 ^ 31, 0, a + i], true⟩ ∨
              keyAddr44 P w.testnet (P.curve.mulGen k) = some s ∨
              s = toHex (P.curve.sec true (P.curve.mulGen k)))) ∨
       (s = Path.format
            ⟨[49 + 2 ^ 31, (if w.testnet then 1 else 0) + 2 ^ 31, acct + 2 ^ 31], true⟩ ∨
          (∃ acctNd, derivePath P w.master
              [49 + 2 ^ 31, (if w.testnet then 1 else 0) + 2 ^ 31, acct + 2 ^ 31] = some acctNd ∧
            nodeExtendedPublicKey P w acctNd = some s) ∨
          ∃ i, i < b - a ∧ ∃ nd k, derivePath P w.master
              [49 + 2 ^ 31, (if w.testnet then 1 else 0) + 2 ^ 31, acct + 2 ^ 31, 0, a + i] = some nd ∧
            prvKey P nd = some k ∧
            (s = Path.format
                ⟨[49 + 2 ^ 31, (if w.testnet then 1 else 0) + 2 ^ 31, acct + 2 ^ 31, 0, a + i], true⟩ ∨
              keyAddr49 P w.testnet (P.curve.mulGen k) = some s ∨
              s = toHex (P.curve.sec true (P.curve.mulGen k)))) ∨
       (s = Path.format
            ⟨[84 + 2 ^ 31, (if w.testnet then 1 else 0) + 2 ^ 31, acct + 2 ^ 31], true⟩ ∨
          (∃ acctNd, derivePath P w.master
              [84 + 2 ^ 31, (if w.testnet then 1 else 0) + 2 ^ 31, acct + 2 ^ 31] = some acctNd ∧
            nodeExtendedPublicKey P w acctNd = some s) ∨
          ∃ i, i < b - a ∧ ∃ nd k, derivePath P w.master
              [84 + 2 ^ 31, (if w.testnet then 1 else 0) + 2 ^ 31, acct + 2 ^ 31, 0, a + i] = some nd ∧
            prvKey P nd = some k ∧
            (s = Path.format
                ⟨[84 + 2 ^ 31, (if w.testnet then 1 else 0) + 2 ^ 31, acct + 2 ^ 31, 0, a + i], true⟩ ∨
              keyAddr84 P w.testnet (P.curve.mulGen k) = some s ∨
              s = toHex (P.curve.sec true (P.curve.mulGen k))))) := by
  obtain ⟨b85, v44, v49, v84, _, rfl, ok44, ok49, ok84⟩ := C06.generate_report hroot h
  cases (paranoia_report (masterData w) b85 v44 v49 v84).symm.trans h'
  intro l hl
  simp only [leaves_public_report, List.mem_append] at hl
  rcases hl with (hl | hl) | hl
  · obtain ⟨s, rfl, hs⟩ := publicLeaf_of_ok ok44 hl
    exact ⟨s, rfl, Or.inl hs⟩
  · obtain ⟨s, rfl, hs⟩ := publicLeaf_of_ok ok49 hl
    exact ⟨s, rfl, Or.inr (Or.inl hs)⟩
  · obtain ⟨s, rfl, hs⟩ := publicLeaf_of_ok ok84 hl
    exact ⟨s, rfl, Or.inr (Or.inr hs)⟩

/-! ### The filter on an arbitrary dictionary, not only on a generated report -/

/-- on ANY JSON value, if `paranoia_mode` returns, the input was a
dictionary; the output is a dictionary whose keys are the input's whitelisted keys in the
input's order; every output value was rebuilt from the input value under the same key alone and
has exactly the two sub-keys `account_extended_keys` (with exactly `path` and `pub`, copied
from the input) and `groups` (the input rows, each without its last element) -/
theorem paranoia_whitelist {j j' : Json} (h : paranoia j = some j') :
    ∃ kvs out, j = .obj kvs ∧ j' = .obj out ∧
      out.map (·.1) = (kvs.map (·.1)).filter (· ∈ Generated.paranoiaKeys) ∧
      List.Forall₂ (fun kv kv' => kv'.1 = kv.1 ∧ paranoiaEntry kv.2 = some kv'.2)
        (kvs.filter fun kv => kv.1 ∈ Generated.paranoiaKeys) out ∧
      ∀ kv' ∈ out, kv'.1 ∈ Generated.paranoiaKeys ∧
        ∃ inner keys rows pth pub rows', (kv'.1, Json.obj inner) ∈ kvs ∧
          inner.lookup "account_extended_keys".toList = some (.obj keys) ∧
          inner.lookup "groups".toList = some (.arr rows) ∧
          keys.lookup "path".toList = some pth ∧ keys.lookup "pub".toList = some pub ∧
          List.Forall₂ (fun r r' => ∃ cols, r = .arr cols ∧ r' = .arr cols.dropLast) rows rows' ∧
          kv'.2 = .obj [("account_extended_keys".toList,
                          .obj [("path".toList, pth), ("pub".toList, pub)]),
                        ("groups".toList, .arr rows')] := by
  obtain ⟨kvs, out, rfl, ho, rfl⟩ := paranoia_eq_some.mp h
  -- what the comprehension's body returns for one kept key
  have hkv : ∀ {kv kv' : List Char × Json},
      (paranoiaEntry kv.2).map (fun e => (kv.1, e)) = some kv' →
      kv'.1 = kv.1 ∧ paranoiaEntry kv.2 = some kv'.2 := by
    intro kv kv' hm
    obtain ⟨e, he, rfl⟩ := Option.map_eq_some_iff.mp hm
    exact ⟨rfl, he⟩
  have h2 := (mapM_eq_some_iff_forall₂.mp ho).imp fun _ _ => hkv
  refine ⟨kvs, out, rfl, rfl, ?_, h2, fun kv' hm => ?_⟩
  · have h1 := List.forall₂_map_left_iff.2 (List.forall₂_map_right_iff.2
      (h2.imp fun _ _ hr => hr.1.symm))
    rw [List.forall₂_eq_eq_eq] at h1
    rw [← h1, List.filter_map]
    rfl
  · obtain ⟨kv, hkv', hm'⟩ := mem_of_mapM_eq_some ho hm
    obtain ⟨hk, he⟩ := hkv hm'
    obtain ⟨hkv1, hkv2⟩ := List.mem_filter.mp hkv'
    obtain ⟨inner, keys, rows, pth, pub, rows', hv, g1, g2, g3, g4, g5, g6⟩ :=
      paranoiaEntry_eq_some.mp he
    refine ⟨by rw [hk]; exact of_decide_eq_true hkv2, inner, keys, rows, pth, pub, rows', ?_, g1,
      g2, g3, g4, ?_, g6⟩
    · rw [hk, ← hv]; exact hkv1
    · exact (mapM_eq_some_iff_forall₂.mp g5).imp fun _ _ => jsonDropLast_eq_some.mp

example : paranoia (.obj [("BIP44".toList, .obj [("account_extended_keys".toList,
      .obj [("path".toList, .str ['m']), ("pub".toList, .null), ("x".toList, .null)]),
      ("groups".toList, .arr [.arr [.null, .str ['s']]])]), ("other".toList, .null)]) =
    some (.obj [("BIP44".toList, .obj [("account_extended_keys".toList,
      .obj [("path".toList, .str ['m']), ("pub".toList, .null)]),
      ("groups".toList, .arr [.arr [.null]])])]) := by
  rfl

end BtcHd.C15
