/-
RealCurve — the curve hypotheses (`CurveLaws`, `GroupLaws`) hold for the CONCRETE secp256k1 of the
driver (`Prims/Secp256k1.lean`, restricted to valid points: `vCurve`), proved against Mathlib's
group law on `y² = x³ + 7` over `ZMod p` with `p`, `n` proved prime by one Pratt certificate table.
The remaining trusted base is "python-ecdsa computes the same functions as `Real.Secp`" (tested).
-/
import BtcHd.Lemmas.Secp.Bridge
import BtcHd.Lemmas.ShaLen
import BtcHd.Lemmas.CurveLaws
import BtcHd.Props.C02

namespace BtcHd.RealCurve
open BtcHd BtcHd.Real.Secp Bip32

theorem p_n_prime : Nat.Prime Real.Secp.p ∧ Nat.Prime Real.Secp.n := ⟨p_prime, n_prime⟩

theorem powMod_correct (b e m : Nat) (he : e < 2 ^ 256) (hm : 1 < m) :
    Real.Secp.powMod b e m = b ^ e % m := powMod_eq b e m he hm

example : Real.Secp.powMod 3 (Real.Secp.p - 1) Real.Secp.p = 1 := by decide +kernel

/-- `vCurve` has exactly the underlying values of the driver's functions (`Real.Secp.*`). -/
theorem vCurve_agrees :
    vCurve.n = Real.Secp.n ∧
    (∀ k, (vCurve.mulGen k).1 = Real.Secp.mulGen k) ∧
    (∀ a b, (vCurve.add a b).1 = Real.Secp.add a.1 b.1) ∧
    (∀ q, vCurve.isInf q = q.1.isNone) ∧
    (∀ c q, vCurve.sec c q = Real.Secp.sec c q.1) ∧
    (∀ bs, (vCurve.parse bs).map Subtype.val = Real.Secp.parse bs) :=
  ⟨rfl, fun _ => rfl, fun _ _ => rfl, fun _ => rfl, fun _ _ => rfl, vCurve_parse_val⟩

/-- The model's operations never leave the curve: `mulGen`, `add` of valid points and `parse` results are valid. -/
theorem closure :
    (∀ k, Valid (Real.Secp.mulGen k)) ∧
    (∀ a b, Valid a → Valid b → Valid (Real.Secp.add a b)) ∧
    (∀ bs pt, Real.Secp.parse bs = some pt → Valid pt) :=
  ⟨fun k => (mulGen_spec k).1, fun _ _ ha hb => (add_spec ha hb).1, fun _ _ h => (parse_valid h).1⟩

theorem toPoint_embedding :
    Function.Injective toPoint ∧ ∀ q, toPoint q = 0 ↔ vCurve.isInf q = true :=
  ⟨toPoint_injective, toPoint_eq_zero_iff⟩

/-- The model's point addition (Jacobian add/double, Fermat inverse) is Mathlib's group addition. -/
theorem toPoint_add_hom (a b : VPt) : toPoint (vCurve.add a b) = toPoint a + toPoint b :=
  toPoint_add a b

/-- The model's 256-step double-and-add `mulGen k` is `k • G` in Mathlib's group. -/
theorem toPoint_mulGen_smul (k : Nat) : toPoint (vCurve.mulGen k) = k • G :=
  (mulGen_spec k).2

theorem G_order (k : Nat) : k • G = 0 ↔ Real.Secp.n ∣ k := by
  rw [← addOrderOf_G, addOrderOf_dvd_iff_nsmul_eq_zero]

theorem mulGen_add (a b : Nat) :
    vCurve.mulGen ((a + b) % vCurve.n) = vCurve.add (vCurve.mulGen a) (vCurve.mulGen b) := by
  apply toPoint_injective
  rw [toPoint_add, toPoint_mulGen_smul, toPoint_mulGen_smul, toPoint_mulGen_smul, vCurve_n, mod_n_smul_G, add_smul]

theorem mulGen_inf (a : Nat) : vCurve.isInf (vCurve.mulGen a) = true ↔ vCurve.n ∣ a := by
  rw [← toPoint_eq_zero_iff, toPoint_mulGen_smul, G_order, vCurve_n]

theorem mulGen_notInf (k : Nat) (h0 : 0 < k) (hk : k < vCurve.n) :
    ¬ vCurve.isInf (vCurve.mulGen k) = true :=
  mt (mulGen_inf k).mp (Nat.not_dvd_of_pos_of_lt h0 hk)

/-- **`CurveLaws` holds for the concrete secp256k1 model.** -/
theorem real_curveLaws : CurveLaws vCurve where
  n_pos := one_lt_n
  n_lt := n_lt
  sec_len
    | ⟨none, _⟩, h => absurd rfl h
    | ⟨some (x, y), _⟩, _ => sec_len_some x y
  parse_sec
    | _, ⟨none, _⟩, h => absurd rfl h
    | c, ⟨some (x, y), hc⟩, _ => vCurve_parse_eq_some.mpr (parse_sec_onCurve c hc)
  sec_parse bs pt hl hp :=
    let ⟨_, _, _, _, h⟩ := (parse_33_iff hl).mp (vCurve_parse_eq_some.mp hp)
    h
  parse_notInf bs pt hp := by
    rw [vCurve_isInf, Option.isNone_iff_eq_none]
    exact (parse_valid (vCurve_parse_eq_some.mp hp)).2
  mulGen_notInf := mulGen_notInf
  sec_prefix
    | ⟨none, _⟩, h => absurd rfl h
    | ⟨some (x, y), _⟩, _ => sec_prefix_some x y

example : ¬ vCurve.isInf (vCurve.mulGen 1) = true := mulGen_notInf 1 (by decide) one_lt_n

/-- **`GroupLaws` (C02's hypotheses, including the HMAC length) holds for the concrete primitives.** -/
theorem real_groupLaws (nfkd : List Char → List Char) : C02.GroupLaws (vPrims nfkd) where
  n_pos := one_lt_n
  n_le := Nat.le_of_lt n_lt
  mulGen_add := mulGen_add
  mulGen_inf := mulGen_inf
  parse_sec := fun pt h => real_curveLaws.parse_sec true pt (Bool.eq_false_iff.mp h)
  hmac_len := Real.hmacSha512_length

/-- The BIP32 layer run with the driver's raw curve (`rawPrims`, the record the differential test exercises)
computes the same results as with `vPrims`, for which the laws above are proved. -/
theorem raw_agrees (nfkd : List Char → List Char) (nd : Node) :
    (∀ i, ckdPrv (vPrims nfkd) nd i = ckdPrv (rawPrims nfkd) nd i) ∧
    (∀ i, ckdPub (vPrims nfkd) nd i = ckdPub (rawPrims nfkd) nd i) ∧
    (∀ is, derivePath (vPrims nfkd) nd is = derivePath (rawPrims nfkd) nd is) ∧
    fingerprint (vPrims nfkd) nd = fingerprint (rawPrims nfkd) nd ∧
    (∀ v, serializePublic (vPrims nfkd) nd v = serializePublic (rawPrims nfkd) nd v) ∧
    (∀ v, serializePrivate (vPrims nfkd) nd v = serializePrivate (rawPrims nfkd) nd v) :=
  ⟨bridge_ckdPrv nfkd nd, bridge_ckdPub nfkd nd, bridge_derivePath nfkd nd, bridge_fingerprint nfkd nd,
    bridge_serializePublic nfkd nd, bridge_serializePrivate nfkd nd⟩

/-- **C02 for the driver's own primitives, with no curve hypothesis left**: CKDpub ∘ neuter =
neuter ∘ CKDpriv on every normal index (outside the `IL = 0` corner). -/
theorem real_ckdPub_neuter (nfkd : List Char → List Char) (nd : Node) (k i : Nat)
    (hk : prvKey (rawPrims nfkd) nd = some k) (hi : i < 2 ^ 31)
    (h0 : C02.IL (rawPrims nfkd) nd k i ≠ 0) :
    (ckdPrv (rawPrims nfkd) nd i).bind (C02.neuter (rawPrims nfkd)) =
      (C02.neuter (rawPrims nfkd) nd).bind (ckdPub (rawPrims nfkd) · i) := by
  -- `prvKey`, `C02.IL`, `ckdPrv`, `C02.neuter` only take `sec` of a `mulGen`: they unfold to the same term for `vPrims`
  -- and `rawPrims`, so `hk`, `h0` and the left side are accepted as they are; `ckdPub` parses and needs the bridge
  have h := C02.ckdPub_neuter (vPrims nfkd) (real_groupLaws nfkd) nd k i hk hi h0
  simp only [bridge_ckdPub] at h
  exact h

/-- a concrete private node (key 1, zero chain code) for the non-vacuity example below -/
private def exNode : Node :=
  { isPrv := true, key := beFixed 32 1, chainCode := beFixed 32 0, depth := 0, index := 0,
    testnet := false, hasParent := false, parentFp := none, path := [], parsedVersion := none }

-- the hypotheses of `real_ckdPub_neuter` hold for `exNode`, `k = 1`, `i = 0` (kernel-evaluated HMAC)
example : prvKey (rawPrims id) exNode = some 1 ∧ C02.IL (rawPrims id) exNode 1 0 ≠ 0 := by
  decide +kernel

theorem hash_lengths (k m : Bytes) :
    (Real.hmacSha512 k m).length = 64 ∧ (Real.sha256 m).length = 32 :=
  ⟨Real.hmacSha512_length k m, Real.sha256_length m⟩

end BtcHd.RealCurve
