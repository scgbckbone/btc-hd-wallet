/-
C01 — BIP32 private child derivation matches the spec for every parent and index.

`Spec` below is written from the BIP32 text alone.  The theorems relate the model
of `PrvKeyNode.ckd` / `derive_path` / `extended_*_key` (`Model/Bip32.lean`, tied
to the Python by the correspondence check) to it, for every choice of
primitives `P` whose group order is at most `2 ^ 256` (hypothesis `hn`: a child key must fit
32 bytes) — in particular for every PRF output, which is how the corners
`IL + k = n - 1, n, n + 1`, wrap-around and children with leading zero bytes are
covered.
-/
import BtcHd.Lemmas.Bip32

namespace BtcHd.C01
open BtcHd Bip32 Keys BeFixed

variable {Pt : Type}

/-- an extended private key with its metadata -/
structure XPrv where
  k : Nat
  c : Bytes
  depth : Nat
  index : Nat
  fp : Bytes
deriving DecidableEq

/-- BIP32's names for `beFixed 4`, `beFixed 32` and `beToNat` -/
def ser32 (i : Nat) : Bytes := beFixed 4 i
def ser256 (k : Nat) : Bytes := beFixed 32 k
def parse256 (bs : Bytes) : Nat := beToNat bs

/-- `CKDpriv((k_par, c_par), i)` with depth / child number / parent fingerprint,
from the BIP32 text -/
def Spec.ckdPriv (P : Prims Pt) (par : XPrv) (i : Nat) : Option XPrv :=
  let serP := P.curve.sec true (P.curve.mulGen par.k)
  let data := if i ≥ 2 ^ 31 then [0x00] ++ ser256 par.k ++ ser32 i else serP ++ ser32 i
  let I := P.hmac512 par.c data
  let IL := parse256 (I.take 32)
  let IR := I.drop 32
  if IL ≥ P.curve.n then none
  else if (IL + par.k) % P.curve.n = 0 then none
  else some ⟨(IL + par.k) % P.curve.n, IR, par.depth + 1, i, (hash160 P serP).take 4⟩

def Spec.derive (P : Prims Pt) (par : XPrv) : List Nat → Option XPrv
  | [] => some par
  | i :: is => (Spec.ckdPriv P par i).bind fun c => Spec.derive P c is

/-- the abstract view of a model node -/
def view (nd : Node) : XPrv := ⟨beToNat nd.key, nd.chainCode, nd.depth, nd.index, parentFingerprint nd⟩

/-- the extracted constant is the BIP32 hardened boundary -/
theorem hardened_is_2_31 : Bip32.hardened = 2 ^ 31 := hardened_eq

private theorem view_mkChild (P : Prims Pt) (nd : Node) {ki : Nat} (chain : Bytes) (i : Nat) (d : Bytes)
    (hki : ki < 256 ^ 32) :
    view (mkChild nd (beFixed 32 ki) chain i ((hash160 P d).take 4))
      = ⟨ki, chain, nd.depth + 1, i, (hash160 P d).take 4⟩ := by
  unfold view
  rw [parentFingerprint_some rfl (fp_length P d)]
  simp only [mkChild, beToNat_beFixed hki]

/-- **CKDpriv**: for every valid private parent (32- or 33-byte key form), every
index below 2^32 and every primitive instance, the model's child is exactly
BIP32's: same failure condition, and on success the same key `(IL + k_par) mod n`,
chain code, depth, child number and parent fingerprint. -/
theorem ckdPriv_eq_spec (P : Prims Pt) (nd : Node) (k i : Nat) (hk : prvKey P nd = some k)
    (hi : i < 2 ^ 32) (hn : P.curve.n ≤ 2 ^ 256) :
    (ckdPrv P nd i).map view = Spec.ckdPriv P (view nd) i := by
  rw [ckdPrv_eq P nd i k hk hi hn]
  simp only [apply_ite (Option.map view), Option.map_none, Option.map_some,
    view_mkChild _ _ _ _ _ (mod_n_lt (Nat.zero_lt_of_lt (prvKey_range hk).2) hn _)]
  -- the specification reads `k`, the chain code and the depth of `view nd`
  rw [Spec.ckdPriv, view, ← prvKey_eq_beToNat hk, ckdPrvData, hardened_eq]
  rfl

/-- the child key is serialised as a full 32 bytes (leading zeros kept), and the
child is again a valid private node on the same network -/
theorem child_wellformed (P : Prims Pt) (nd c : Node) (k i : Nat) (hk : prvKey P nd = some k)
    (hi : i < 2 ^ 32) (hn : P.curve.n ≤ 2 ^ 256) (hc : ckdPrv P nd i = some c) :
    c.key.length = 32 ∧ c.key = beFixed 32 (view c).k ∧ prvKey P c = some (view c).k ∧
      c.isPrv = nd.isPrv ∧ c.testnet = nd.testnet := by
  obtain ⟨ki, IR, fp, h1, h2, _, rfl⟩ := ckdPrv_eq_some hk hi hn hc
  have hv : (view (mkChild nd (beFixed 32 ki) IR i fp)).k = ki := by
    simp only [view, mkChild_key, beToNat_beFixed (show ki < 256 ^ 32 by omega)]
  rw [hv]
  exact ⟨by rw [mkChild_key, beFixed_length], mkChild_key .., mkChild_prvKey P nd ki IR i fp h1 h2 hn,
    mkChild_isPrv .., mkChild_testnet ..⟩

/-- **Paths**: deriving along any index list (no bound on its length) equals iterating the
specification. -/
theorem derivePath_eq_spec (P : Prims Pt) (hn : P.curve.n ≤ 2 ^ 256) (is : List Nat)
    (his : ∀ i ∈ is, i < 2 ^ 32) (nd : Node) (k : Nat) (hp : nd.isPrv = true)
    (hk : prvKey P nd = some k) :
    (derivePath P nd is).map view = Spec.derive P (view nd) is := by
  induction is generalizing nd k with
  | nil => rfl
  | cons i is ih =>
    have hi : i < 2 ^ 32 := his i (List.mem_cons_self ..)
    rw [derivePath, Spec.derive, ckd_eq_ckdPrv P hp, ← ckdPriv_eq_spec P nd k i hk hi hn]
    cases hc : ckdPrv P nd i with
    | none => rfl
    | some c =>
      obtain ⟨hpc, kc, hkc⟩ := ckdPrv_prvKey P hn hk hc
      exact ih (fun j hj => his j (List.mem_cons_of_mem _ hj)) c kc (hpc.trans hp) hkc

/-- a parent given as 33 bytes `00 ‖ k` or as 32 bytes `k` yields the same child -/
theorem key_repr_irrelevant (P : Prims Pt) (nd : Node) (k i : Nat) (h1 : 1 ≤ k) (h2 : k < P.curve.n)
    (hn : P.curve.n ≤ 2 ^ 256) (hi : i < 2 ^ 32) :
    ckdPrv P { nd with key := 0 :: beFixed 32 k } i = ckdPrv P { nd with key := beFixed 32 k } i := by
  have ha : prvKey P { nd with key := 0 :: beFixed 32 k } = some k := prvKey_of_key h1 h2 hn (.inr rfl)
  have hb : prvKey P { nd with key := beFixed 32 k } = some k := prvKey_of_key h1 h2 hn (.inl rfl)
  rw [ckdPrv_eq P _ i k ha hi hn, ckdPrv_eq P _ i k hb hi hn]
  simp only [mkChild]

theorem index_overflow_refused (P : Prims Pt) (nd : Node) (i : Nat) (hi : 2 ^ 32 ≤ i) :
    ckdPrv P nd i = none :=
  ckdPrv_of_overflow P nd hi

/-- the 78-byte layout of a node that is not a master node -/
private theorem serializeWith_eq {nd : Node} (key : Bytes) {v : Nat} (hd : nd.depth < 256)
    (hi : nd.index < 2 ^ 32) (hm : isMaster nd = false) (hv : v < 2 ^ 32) :
    serializeWith nd key v = some (beFixed 4 v ++ beFixed 1 nd.depth ++ parentFingerprint nd ++
      ser32 nd.index ++ nd.chainCode ++ key) := by
  unfold serializeWith
  rw [toBytesBE_eq_some (by omega), toBytesBE_eq_some (by omega : nd.depth < 256 ^ 1),
    toBytesBE_eq_some (by omega), hm]
  rfl

/-- **Printed extended private key**: the string is Base58Check of
`version ‖ depth ‖ parent fingerprint ‖ ser32(i) ‖ chain code ‖ 0x00 ‖ ser256(k)` -/
theorem xprv_string (P : Prims Pt) (nd : Node) (k : Nat) (hk : prvKey P nd = some k) (hp : nd.isPrv = true)
    (hd : nd.depth < 256) (hi : nd.index < 2 ^ 32) (hm : isMaster nd = false) (v : Nat) (hv : v < 2 ^ 32) :
    extendedPrivateKey P nd (some v) = some (Base58.encodeCheck P.hash256
      (beFixed 4 v ++ beFixed 1 nd.depth ++ parentFingerprint nd ++ ser32 nd.index ++ nd.chainCode
        ++ ([0x00] ++ ser256 k))) := by
  unfold extendedPrivateKey serializePrivate
  rw [if_pos hp, hk, Option.bind_some, Option.getD_some, serializeWith_eq _ hd hi hm hv]
  rfl

/-- **Printed extended public key**: the same layout with `serP(k·G)` as key data -/
theorem xpub_string (P : Prims Pt) (nd : Node) (k : Nat) (hk : prvKey P nd = some k) (hp : nd.isPrv = true)
    (hd : nd.depth < 256) (hi : nd.index < 2 ^ 32) (hm : isMaster nd = false) (v : Nat) (hv : v < 2 ^ 32) :
    extendedPublicKey P nd (some v) = some (Base58.encodeCheck P.hash256
      (beFixed 4 v ++ beFixed 1 nd.depth ++ parentFingerprint nd ++ ser32 nd.index ++ nd.chainCode
        ++ P.curve.sec true (P.curve.mulGen k))) := by
  unfold extendedPublicKey serializePublic pubKey
  rw [if_pos hp, hk, Option.map_some, Option.bind_some, Option.getD_some, serializeWith_eq _ hd hi hm hv]
  rfl

/-- non-vacuity: a concrete parent satisfying the hypotheses (scalar 1, any curve of order > 1) -/
example (P : Prims Pt) (h : 1 < P.curve.n) (hn : P.curve.n ≤ 2 ^ 256) (nd : Node) :
    prvKey P { nd with key := beFixed 32 1 } = some 1 :=
  prvKey_of_key (by omega) h hn (.inl rfl)

end BtcHd.C01
