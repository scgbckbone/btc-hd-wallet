/-
C06 — the paper-wallet report.

"For every seed, network, account number and index interval, the generated wallet lists for each
of BIP44, BIP49 and BIP84 the account at m/purpose'/coin'/account' (coin 0' on mainnet, 1' on
testnet) with its extended keys in that purpose's SLIP-132 encoding, and exactly one row per index
of the interval on the external chain, in order.  In every row the WIF decodes to the private key
at the stated path, the SEC hex is its compressed public key, and the address is that key's P2PKH,
P2SH-P2WPKH or P2WPKH address respectively; the master block echoes the mnemonic and passphrase
used.  […] the Wasabi export carries the extended public key at m/84'/0'/0' together with the
master key's fingerprint."

The report is `generate` of `Model/Wallet.lean` (`bipAccount` = `bip44` / `bip49` / `bip84`).  An
account block is spoken of as a record `Acct` with rows `Row`, and `AcctOk` says what it must
contain (`Lemmas/Wallet.lean`).  Throughout, `P` (hashes, HMAC, curve) is abstract and a raised
exception is `none`.
A wallet's master is a *root object* when `w.master.path = []` (true of every constructor, see
`ctor_root`); this is what makes `str(node)` print the full path.
-/
import BtcHd.Lemmas.Wallet
import BtcHd.Lemmas.ToyWallet
import BtcHd.Props.C09
import BtcHd.Props.C17

namespace BtcHd.C06
open BtcHd Bip32 Wallet Keys Path

variable {Pt : Type}

/-! ### The wallets the theorems are about -/

/-- every constructor returns a wallet whose master is a root object (`str(master)` is `m` / `M`) -/
theorem ctor_root (P : Prims Pt) :
    (∀ seed t w, fromSeedBytes P seed t = some w → w.master.path = []) ∧
    (∀ s t w, fromSeedHex P s t = some w → w.master.path = []) ∧
    (∀ m p t w, fromMnemonic P m p t = some w → w.master.path = []) ∧
    (∀ e p t w, fromEntropyHex P e p t = some w → w.master.path = []) ∧
    (∀ rnd n p t w, newWallet P rnd n p t = some w → w.master.path = []) ∧
    (∀ s w, fromExtendedKey P s = some w → w.master.path = []) := by
  refine ⟨fun _ _ _ h => (fromSeedBytes_fields h).root, fun _ _ _ h => (fromSeedHex_fields h).root,
    fun _ _ _ _ h => (fromMnemonic_fields h).root, fun _ _ _ _ h => ?_, fun _ _ _ _ _ h => ?_,
    fun s w h => ?_⟩
  · obtain ⟨_, _, hf⟩ := fromEntropyHex_fields h
    exact hf.root
  · obtain ⟨_, _, _, _, hf⟩ := newWallet_fields h
    exact hf.root
  · exact (fromExtendedKey_fields h).1

/-- a report is only ever produced by a wallet holding private keys: on a watch-only wallet
`bip44` / `bip49` / `bip84` raise at the first (hardened) derivation step -/
theorem watchOnly_no_report (P : Prims Pt) (w : Wallet) (hpub : w.master.isPrv = false)
    (purpose : Nat) (addr : Node → Option (List Char)) (acct a b : Nat) :
    bipAccount P w purpose addr acct a b = none ∧ generate P w acct a b = none :=
  ⟨bipAccount_of_watchOnly P hpub .., generate_of_watchOnly P hpub ..⟩

/-- `generate` succeeds exactly when `bip44`, `bip49`, `bip84` (with the P2PKH, P2SH-P2WPKH and
P2WPKH address functions on the wallet's network) and `bip85_data` do; the report is then the
dictionary `MASTER`, `BIP85`, `BIP44`, `BIP49`, `BIP84`, in this order -/
theorem generate_shape (P : Prims Pt) (w : Wallet) (acct a b : Nat) (j : Json) :
    generate P w acct a b = some j ↔
      ∃ r44 r49 r84 b85,
        bipAccount P w 44 (p2pkhAddress P w.testnet) acct a b = some r44 ∧
        bipAccount P w 49 (p2shP2wpkhAddress P w.testnet) acct a b = some r49 ∧
        bipAccount P w 84 (p2wpkhAddress P w.testnet) acct a b = some r84 ∧
        bip85Data P w = some b85 ∧
        j = .obj [("MASTER".toList, masterData w), ("BIP85".toList, b85),
                  ("BIP44".toList, .obj [("account_extended_keys".toList, r44.1),
                                         ("groups".toList, .arr r44.2)]),
                  ("BIP49".toList, .obj [("account_extended_keys".toList, r49.1),
                                         ("groups".toList, .arr r49.2)]),
                  ("BIP84".toList, .obj [("account_extended_keys".toList, r84.1),
                                         ("groups".toList, .arr r84.2)])] :=
  generate_eq_some

example : ∃ j, generate Toy.primsW (Toy.walletW true) 1 2 4 = some j := Toy.generate_toy

/-! ### The account at `m/purpose'/coin'/account'` and its printed path -/

private theorem reprHardened_add (x : Nat) : reprHardened (x + 2 ^ 31) = natToDec x ++ ['\''] := by
  unfold reprHardened
  rw [if_pos (Nat.le_add_left _ _), Nat.add_sub_cancel]

private theorem natToDec_coin (t : Bool) : natToDec (if t then 1 else 0) = if t then ['1'] else ['0'] := by
  cases t <;> rfl

/-- the `account_extended_keys` of an account block: `path` is the printed
`m/purpose'/coin'/account'` (coin `0'` on mainnet, `1'` on testnet), the path the account node was
derived along; `pub` / `prv` are that node's extended keys as the wallet prints them -/
theorem acct_path {P : Prims Pt} {w : Wallet} {purpose : Nat} {addr : Node → Option (List Char)}
    {acct a b : Nat} {keys : Json} {rows : List Json} (hroot : w.master.path = [])
    (h : bipAccount P w purpose addr acct a b = some (keys, rows)) :
    ∃ acctNd pub prv,
      derivePath P w.master
        [purpose + 2 ^ 31, (if w.testnet then 1 else 0) + 2 ^ 31, acct + 2 ^ 31] = some acctNd ∧
      nodeExtendedPublicKey P w acctNd = some pub ∧
      nodeExtendedPrivateKey P w acctNd = some prv ∧
      keys = .obj [("path".toList, .str (Path.format
                ⟨[purpose + 2 ^ 31, (if w.testnet then 1 else 0) + 2 ^ 31, acct + 2 ^ 31], true⟩)),
              ("pub".toList, .str pub), ("prv".toList, .str prv)] := by
  obtain ⟨acctNd, pub, prv, rs, h1, hpub, hx, hr, _⟩ := bipAccount_spec h
  rw [hroot] at hr
  exact ⟨acctNd, pub, prv, h1, hpub, hx, (Prod.mk.inj hr).1⟩

/-- non-vacuity: the toy testnet wallet (a root object) produces the BIP44 block of account 1,
indexes 2 and 3 -/
example : ∃ keys rows, bipAccount Toy.primsW (Toy.walletW true) 44
      (p2pkhAddress Toy.primsW true) 1 2 4 = some (keys, rows) ∧
    (Toy.walletW true).master.path = [] := by
  obtain ⟨_, hj⟩ := Toy.generate_toy
  obtain ⟨⟨k, r⟩, _, _, _, h, _⟩ := generate_eq_some.mp hj
  exact ⟨k, r, h, rfl⟩

/-- the printed account path, character by character: `m/<purpose>'/<0|1>'/<account>'` -/
theorem acct_path_string (t : Bool) (purpose acct : Nat) :
    Path.format ⟨[purpose + 2 ^ 31, (if t then 1 else 0) + 2 ^ 31, acct + 2 ^ 31], true⟩ =
      ['m', '/'] ++ natToDec purpose ++ ['\'', '/'] ++ (if t then ['1'] else ['0']) ++ ['\'', '/']
        ++ natToDec acct ++ ['\''] := by
  unfold Path.format
  simp only [List.map_cons, List.map_nil, reprHardened_add, if_true, Text.join, natToDec_coin]
  simp

example : Path.format ⟨[44 + 2 ^ 31, (if true then 1 else 0) + 2 ^ 31, 7 + 2 ^ 31], true⟩ =
    "m/44'/1'/7'".toList := by
  rw [String.toList_ofList]
  decide +kernel

/-! ### The printed paths read back; the account keys are in the purpose's SLIP-132 encoding -/

/-- the printed form of a row path with a 32-bit index is read back by `Bip32Path.parse` -/
theorem parse_row_path (w : Wallet) {purpose acct idx : Nat} (hp : purpose < 2 ^ 31)
    (ha : acct < 2 ^ 31) (hi : idx < 2 ^ 32) (b : Bool) :
    Path.parse (Path.format ⟨rowLevels w purpose acct idx, b⟩)
      = some ⟨rowLevels w purpose acct idx, b⟩ :=
  C17.parse_format (by simp [rowLevels, acctLevels]) (rowLevels_lt w hp ha hi)

/-- so is the printed form of an account path -/
theorem parse_acct_path (w : Wallet) {purpose acct : Nat} (hp : purpose < 2 ^ 31)
    (ha : acct < 2 ^ 31) (b : Bool) :
    Path.parse (Path.format ⟨acctLevels w purpose acct, b⟩) = some ⟨acctLevels w purpose acct, b⟩ :=
  C17.parse_format (by simp [acctLevels]) fun x hx =>
    -- an account path is the front of the row path with index 0
    rowLevels_lt w hp ha (idx := 0) (Nat.two_pow_pos 32) x (List.mem_append_left _ hx)

/-- the version under which the wallet prints the account node's extended
public (`kt = 1`) or private (`kt = 0`) key is the SLIP-132 table entry for that key type, the
flavour of the purpose (44 ↦ 0, 49 ↦ 1, 84 ↦ 2) and the wallet's network -/
theorem acct_versions {P : Prims Pt} {w : Wallet} {purpose acct : Nat} {acctNd : Node} (kt : Nat)
    (hroot : w.master.path = []) (hp : purpose < 2 ^ 31) (ha : acct < 2 ^ 31)
    (h : derivePath P w.master
      [purpose + 2 ^ 31, (if w.testnet then 1 else 0) + 2 ^ 31, acct + 2 ^ 31] = some acctNd) :
    nodeVersionInt w acctNd kt = Version.toInt ⟨kt, bipIdx purpose, w.testnet⟩ := by
  have hparse : Path.parse (nodeRepr acctNd) = some ⟨acctLevels w purpose acct, w.master.isPrv⟩ := by
    rw [nodeRepr_of_derive h, hroot]
    exact parse_acct_path w hp ha _
  unfold nodeVersionInt
  rw [hparse, Option.bind_some, bipOf_acctLevels]

example : ∃ nd, derivePath Toy.primsW (Toy.walletW true).master
    [44 + 2 ^ 31, (if (Toy.walletW true).testnet then 1 else 0) + 2 ^ 31, 1 + 2 ^ 31] = some nd ∧
    (44 : Nat) < 2 ^ 31 ∧ (1 : Nat) < 2 ^ 31 := by
  obtain ⟨_, hj⟩ := Toy.generate_toy
  obtain ⟨⟨k, r⟩, _, _, _, h, _⟩ := generate_eq_some.mp hj
  obtain ⟨nd, _, _, h1, _⟩ := acct_path (Toy.walletW_root true) h
  exact ⟨nd, h1, by decide, by decide⟩

/-- the SLIP-132 table used: x/y/z-pub and -prv on mainnet, t/u/v-pub and -prv on testnet, for
purposes 44 / 49 / 84 -/
theorem acct_version_table :
    [44, 49, 84].map (fun p => Version.toInt ⟨1, bipIdx p, false⟩) =
        [some 0x0488B21E, some 0x049D7CB2, some 0x04B24746] ∧
    [44, 49, 84].map (fun p => Version.toInt ⟨0, bipIdx p, false⟩) =
        [some 0x0488ADE4, some 0x049D7878, some 0x04B2430C] ∧
    [44, 49, 84].map (fun p => Version.toInt ⟨1, bipIdx p, true⟩) =
        [some 0x043587CF, some 0x044A5262, some 0x045F1CF6] ∧
    [44, 49, 84].map (fun p => Version.toInt ⟨0, bipIdx p, true⟩) =
        [some 0x04358394, some 0x044A4E28, some 0x045F18BC] := by decide

/-- so the `pub` and `prv` strings of an account block are the account node's
extended keys serialised under those SLIP-132 versions (`v1` for `pub`, `v0` for `prv`) -/
theorem acct_keys {P : Prims Pt} {w : Wallet} {purpose : Nat} {addr : Node → Option (List Char)}
    {acct a b : Nat} {keys : Json} {rows : List Json} (hroot : w.master.path = [])
    (hp : purpose < 2 ^ 31) (ha : acct < 2 ^ 31)
    (h : bipAccount P w purpose addr acct a b = some (keys, rows)) :
    ∃ acctNd v1 v0 pub prv,
      derivePath P w.master
        [purpose + 2 ^ 31, (if w.testnet then 1 else 0) + 2 ^ 31, acct + 2 ^ 31] = some acctNd ∧
      Version.toInt ⟨1, bipIdx purpose, w.testnet⟩ = some v1 ∧
      Version.toInt ⟨0, bipIdx purpose, w.testnet⟩ = some v0 ∧
      extendedPublicKey P acctNd (some v1) = some pub ∧
      extendedPrivateKey P acctNd (some v0) = some prv ∧
      keys = .obj [("path".toList, .str (Path.format
                ⟨[purpose + 2 ^ 31, (if w.testnet then 1 else 0) + 2 ^ 31, acct + 2 ^ 31], true⟩)),
              ("pub".toList, .str pub), ("prv".toList, .str prv)] := by
  obtain ⟨acctNd, pub, prv, h1, hpub, hprv, hk⟩ := acct_path hroot h
  obtain ⟨v1, hv1, hpub⟩ := nodeExtendedPublicKey_eq_some.mp hpub
  obtain ⟨_, v0, hv0, hprv⟩ := nodeExtendedPrivateKey_eq_some.mp hprv
  rw [acct_versions 1 hroot hp ha h1] at hv1
  rw [acct_versions 0 hroot hp ha h1] at hv0
  exact ⟨acctNd, v1, v0, pub, prv, h1, hv1, hv0, hpub, hprv, hk⟩

/-! ### The rows: each consistent with the private key at its path, exactly one per index -/

/-- every row belongs to one key: the node at the stated path is private with scalar `k`, and the
columns are the compressed WIF of `k` on the wallet's network, the hex of the compressed SEC of
`k·G`, and the block's address function applied to that node -/
theorem row_consistent {P : Prims Pt} {w : Wallet} {purpose : Nat}
    {addr : Node → Option (List Char)} {acct a b : Nat} {keys : Json} {rows : List Json}
    (hroot : w.master.path = []) (h : bipAccount P w purpose addr acct a b = some (keys, rows))
    {i : Nat} (hi : i < b - a) :
    ∃ nd k ad,
      derivePath P w.master
        [purpose + 2 ^ 31, (if w.testnet then 1 else 0) + 2 ^ 31, acct + 2 ^ 31, 0, a + i]
        = some nd ∧
      nd.isPrv = true ∧ prvKey P nd = some k ∧ pubKey P nd = some (P.curve.mulGen k) ∧
      addr nd = some ad ∧
      rows[i]? = some (.arr [.str (Path.format
          ⟨[purpose + 2 ^ 31, (if w.testnet then 1 else 0) + 2 ^ 31, acct + 2 ^ 31, 0, a + i], true⟩),
        .str ad, .str (toHex (P.curve.sec true (P.curve.mulGen k))),
        .str (Keys.wif P k true w.testnet)]) := by
  obtain ⟨_, _, _, rs, _, _, _, hr, _, hrows⟩ := bipAccount_spec h
  rw [hroot] at hrows
  obtain ⟨nd, k, ad, g1, hk, hK, had, g5⟩ := hrows i hi
  refine ⟨nd, k, ad, g1, (derivePath_fields g1).1.trans (isPrv_of_bipAccount h), hk, hK, had, ?_⟩
  rw [(Prod.mk.inj hr).2, List.getElem?_map, g5]
  rfl

/-- exactly one row per index of `range(a, b)`, in order: none missing, none extra, none for an
empty interval; row `i` is `[path, address, sec, wif]` of the node at
`m/purpose'/coin'/account'/0/(a+i)`.  No bound on the indexes is needed: an index ≥ 2^31 is
derived hardened and printed with `'`, both by the same rule. -/
theorem rows_exact {P : Prims Pt} {w : Wallet} {purpose : Nat} {addr : Node → Option (List Char)}
    {acct a b : Nat} {keys : Json} {rows : List Json} (hroot : w.master.path = [])
    (h : bipAccount P w purpose addr acct a b = some (keys, rows)) :
    rows.length = b - a ∧
    ∀ i, i < b - a → ∃ nd ad K wif,
      derivePath P w.master
        [purpose + 2 ^ 31, (if w.testnet then 1 else 0) + 2 ^ 31, acct + 2 ^ 31, 0, a + i]
        = some nd ∧
      addr nd = some ad ∧ pubKey P nd = some K ∧
      rows[i]? = some (.arr [.str (Path.format
          ⟨[purpose + 2 ^ 31, (if w.testnet then 1 else 0) + 2 ^ 31, acct + 2 ^ 31, 0, a + i], true⟩),
        .str ad, .str (toHex (P.curve.sec true K)), wif]) := by
  refine ⟨(bipAccount_rows h).1, fun i hi => ?_⟩
  obtain ⟨nd, k, ad, g1, _, _, hK, had, hrow⟩ := row_consistent hroot h hi
  exact ⟨nd, ad, _, _, g1, had, hK, hrow⟩

/-- an empty (or reversed) interval gives no rows -/
theorem rows_empty {P : Prims Pt} {w : Wallet} {purpose : Nat} {addr : Node → Option (List Char)}
    {acct a b : Nat} {keys : Json} {rows : List Json} (hab : b ≤ a)
    (h : bipAccount P w purpose addr acct a b = some (keys, rows)) : rows = [] :=
  List.length_eq_zero_iff.mp ((bipAccount_rows h).1.trans (Nat.sub_eq_zero_of_le hab))

/-- the printed row path, character by character, when the index is not hardened
(`a + i < 2^31`, e.g. whenever `b ≤ 2^31`): `m/<purpose>'/<0|1>'/<account>'/0/<index>` -/
theorem row_path_string (t : Bool) (purpose acct idx : Nat) (hidx : idx < 2 ^ 31) :
    Path.format ⟨[purpose + 2 ^ 31, (if t then 1 else 0) + 2 ^ 31, acct + 2 ^ 31, 0, idx], true⟩ =
      ['m', '/'] ++ natToDec purpose ++ ['\'', '/'] ++ (if t then ['1'] else ['0']) ++ ['\'', '/']
        ++ natToDec acct ++ ['\'', '/', '0', '/'] ++ natToDec idx := by
  have hc := natToDec_coin t
  have h0 : reprHardened 0 = ['0'] := by decide
  have hi : reprHardened idx = natToDec idx := by
    unfold reprHardened; rw [if_neg (by omega)]
  unfold Path.format
  simp only [List.map_cons, List.map_nil, reprHardened_add, if_true, Text.join, hc, h0, hi]
  simp

example : Path.format ⟨[84 + 2 ^ 31, (if false then 1 else 0) + 2 ^ 31, 0 + 2 ^ 31, 0, 19], true⟩ =
    "m/84'/0'/0'/0/19".toList := by
  rw [String.toList_ofList]
  decide +kernel

/-- the WIF of a row decodes (`PrivateKey.from_wif`) to the private key at the row's path, on
either network (for a curve order below 2^256 and a checksum hash of at least four bytes) -/
theorem row_wif_decodes (P : Prims Pt) (hlen : ∀ x, 4 ≤ (P.hash256 x).length)
    (hn : P.curve.n ≤ 2 ^ 256) (nd : Node) (k : Nat) (hk : prvKey P nd = some k) (t : Bool) :
    fromWif P (Keys.wif P k true t) = some k := by
  obtain ⟨h1, h2⟩ := prvKey_range hk
  exact C09.fromWif_wif P hlen hn k h1 h2 true t

example : (∀ x, 4 ≤ (Toy.primsW.hash256 x).length) ∧ Toy.primsW.curve.n ≤ 2 ^ 256 ∧
    prvKey Toy.primsW (Toy.masterW true) = some 1 :=
  ⟨fun x => by rw [Toy.hash256W_length]; decide, by decide, by decide +kernel⟩

/-- the three address functions of the report, as functions of the row's public key `k·G`:
P2PKH of its hash160 (44), P2SH of the hash160 of the P2WPKH script of its hash160 (49), native
P2WPKH of its hash160 (84), each with the network flag given -/
theorem row_addresses (P : Prims Pt) (t : Bool) (nd : Node) (K : Pt) (hK : pubKey P nd = some K) :
    p2pkhAddress P t nd = some (p2pkhOfH160 P (hash160 P (P.curve.sec true K)) t) ∧
    p2shP2wpkhAddress P t nd =
      (Script.rawSerialize [.op 0, .data (hash160 P (P.curve.sec true K))]).map
        (fun redeem => p2shOfH160 P (hash160 P redeem) t) ∧
    p2wpkhAddress P t nd = segwitOf (hash160 P (P.curve.sec true K)) t := by
  refine ⟨?_, ?_, ?_⟩
  · rw [p2pkhAddress_eq, hK]; rfl
  · rw [p2shP2wpkhAddress_eq, hK]; rfl
  · rw [p2wpkhAddress_eq, hK]; rfl

/-! ### The whole account block, and the whole report -/

/-- an account block produced with an address function that depends on the node only through its
public key meets the specification `AcctOk` (`Lemmas/Wallet.lean`) -/
theorem account_block {P : Prims Pt} {w : Wallet} {purpose : Nat}
    {addr : Node → Option (List Char)} {keyAddr : Pt → Option (List Char)} {acct a b : Nat}
    {r : Json × List Json} (hroot : w.master.path = [])
    (haddr : ∀ nd, addr nd = (pubKey P nd).bind keyAddr)
    (h : bipAccount P w purpose addr acct a b = some r) :
    ∃ v : Acct, r = v.toPair ∧ AcctOk P w purpose keyAddr acct a b v := by
  obtain ⟨acctNd, pub, prv, rs, h1, hpub, hx, rfl, hlen, hrows⟩ := bipAccount_spec h
  rw [hroot] at hrows ⊢
  refine ⟨_, rfl, ⟨acctNd, prv, h1, rfl, hpub, hx, rfl⟩, hlen, fun i hi => ?_⟩
  obtain ⟨nd, k, ad, g1, hk, hK, had, g5⟩ := hrows i hi
  rw [haddr, hK] at had
  exact ⟨nd, k, ad, g1, hk, had, g5⟩

/-- every report is the dictionary `MASTER` (mnemonic and passphrase),
`BIP85`, `BIP44`, `BIP49`, `BIP84`, where the three account blocks satisfy `AcctOk` for purposes
44 / 49 / 84 with the P2PKH / P2SH-P2WPKH / P2WPKH address of the row's public key on the
wallet's network -/
theorem generate_report {P : Prims Pt} {w : Wallet} {acct a b : Nat} {j : Json}
    (hroot : w.master.path = []) (h : generate P w acct a b = some j) :
    ∃ (b85 : Json) (v44 v49 v84 : Acct),
      bip85Data P w = some b85 ∧
      j = .obj [("MASTER".toList,
                  .obj [("mnemonic".toList, optStr w.mnemonic), ("password".toList, optStr w.password)]),
                ("BIP85".toList, b85),
                ("BIP44".toList, .obj [("account_extended_keys".toList, v44.keysJson),
                                       ("groups".toList, .arr (v44.rows.map Row.toJson))]),
                ("BIP49".toList, .obj [("account_extended_keys".toList, v49.keysJson),
                                       ("groups".toList, .arr (v49.rows.map Row.toJson))]),
                ("BIP84".toList, .obj [("account_extended_keys".toList, v84.keysJson),
                                       ("groups".toList, .arr (v84.rows.map Row.toJson))])] ∧
      AcctOk P w 44 (keyAddr44 P w.testnet) acct a b v44 ∧
      AcctOk P w 49 (keyAddr49 P w.testnet) acct a b v49 ∧
      AcctOk P w 84 (keyAddr84 P w.testnet) acct a b v84 := by
  obtain ⟨r44, r49, r84, b85, h44, h49, h84, h85, rfl⟩ := generate_eq_some.mp h
  obtain ⟨v44, rfl, ok44⟩ := account_block hroot (p2pkhAddress_eq P w.testnet) h44
  obtain ⟨v49, rfl, ok49⟩ := account_block hroot (p2shP2wpkhAddress_eq P w.testnet) h49
  obtain ⟨v84, rfl, ok84⟩ := account_block hroot (p2wpkhAddress_eq P w.testnet) h84
  exact ⟨b85, v44, v49, v84, h85, rfl, ok44, ok49, ok84⟩

example : ∃ j, generate Toy.primsW (Toy.walletW true) 1 2 4 = some j ∧
    (Toy.walletW true).master.path = [] := by
  obtain ⟨j, hj⟩ := Toy.generate_toy
  exact ⟨j, hj, rfl⟩

/-- the `MASTER` entry is `{"mnemonic": …, "password": …}` holding the wallet's
stored mnemonic and passphrase; a wallet built from a mnemonic (directly, from entropy, or new)
stores exactly the mnemonic and passphrase it was built from, one built from a seed stores none -/
theorem master_echo (P : Prims Pt) :
    (∀ w, masterData w = .obj [("mnemonic".toList, optStr w.mnemonic),
                               ("password".toList, optStr w.password)]) ∧
    (∀ m p t w, fromMnemonic P m p t = some w →
      masterData w = .obj [("mnemonic".toList, .str m), ("password".toList, .str p)]) ∧
    (∀ e p t w, fromEntropyHex P e p t = some w →
      ∃ m, Bip39.mnemonicFromEntropy P.sha256 e = some m ∧
        masterData w = .obj [("mnemonic".toList, .str m), ("password".toList, .str p)]) ∧
    (∀ rnd n p t w, newWallet P rnd n p t = some w →
      ∃ bits m, (n, bits) ∈ Generated.lenToBits ∧
        Bip39.mnemonicFromEntropyBits P.sha256 rnd bits = some m ∧
        masterData w = .obj [("mnemonic".toList, .str m), ("password".toList, .str p)]) ∧
    (∀ seed t w, fromSeedBytes P seed t = some w →
      masterData w = .obj [("mnemonic".toList, .null), ("password".toList, .null)]) := by
  have md : ∀ {w : Wallet} {t : Bool} {m p : Option (List Char)}, Built t m p w →
      masterData w = .obj [("mnemonic".toList, optStr m), ("password".toList, optStr p)] :=
    fun b => by rw [← b.mnemonic, ← b.password]; rfl
  refine ⟨fun _ => rfl, fun m p t w h => md (fromMnemonic_fields h), fun e p t w h => ?_,
    fun rnd n p t w h => ?_, fun seed t w h => md (fromSeedBytes_fields h)⟩
  · obtain ⟨m, hme, hf⟩ := fromEntropyHex_fields h
    exact ⟨m, hme, md hf⟩
  · obtain ⟨bits, m, hb, hme, hf⟩ := newWallet_fields h
    exact ⟨bits, m, hb, hme, md hf⟩

/-- the Wasabi export exists exactly when the node at `m/84'/0'/0'` can be
derived, its default-version extended public key serialises, and the master has a fingerprint; it
is then `{"ExtPubKey": that key, "MasterFingerprint": the master's fingerprint in upper-case hex,
"ColdCardFirmwareVersion": "3.1.3"}` -/
theorem wasabi_spec (P : Prims Pt) (w : Wallet) (j : Json) :
    wasabi P w = some j ↔
      ∃ nd x fp, derivePath P w.master [84 + 2 ^ 31, 2 ^ 31, 2 ^ 31] = some nd ∧
        extendedPublicKey P nd none = some x ∧ fingerprint P w.master = some fp ∧
        j = .obj [("ExtPubKey".toList, .str x),
                  ("MasterFingerprint".toList, .str (upperHex (toHex fp))),
                  ("ColdCardFirmwareVersion".toList, .str "3.1.3".toList)] := by
  simp only [wasabi, byPath_wasabi, Option.bind_eq_some_iff, Option.map_eq_some_iff,
    exists_and_left, @eq_comm _ j]

example (t : Bool) : ∃ j, wasabi Toy.primsW (Toy.walletW t) = some j :=
  Option.isSome_iff_exists.mp (Toy.wasabi_toy t)

/-- the master fingerprint of the export is the first four bytes of the hash160 of the master's
compressed public key -/
theorem wasabi_fingerprint (P : Prims Pt) (nd : Node) (K : Pt) (hK : pubKey P nd = some K) :
    fingerprint P nd = some ((hash160 P (P.curve.sec true K)).take 4) := by
  unfold fingerprint
  rw [hK]
  rfl

end BtcHd.C06
