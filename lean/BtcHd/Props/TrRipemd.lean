/-
Translation tie: the functions of `ripemd.py` as re-emitted from the source by harness/translate_obj6.py
(`Generated/CodeObj6.lean`, in the residue domain Z/2^32 — see the translator's header for the rule set and for what it
checks syntactically) are EQUAL to the model `Model/Ripemd.lean`, on which the HASH160 clause of C05 is stated.
-/
import BtcHd.Generated.CodeObj6
import BtcHd.Lemmas.Ripemd

namespace BtcHd.TrRipemd
open BtcHd BtcHd.Ripemd

/-- `fi` on the five round numbers the code uses (the `else: assert False` arm is opaque) -/
theorem fi_eq (x y z : UInt32) (i : Nat) (h : i ≤ 4) : CodeObj6.fi x y z i = Ripemd.fi x y z i := by
  match i, h with
  | 0, _ | 1, _ | 2, _ | 3, _ | 4, _ => rfl

theorem rol_eq (x : UInt32) (i : Nat) : CodeObj6.rol x i = Ripemd.rol x i := rfl

/-- every rotation count of the tables is a proper 32-bit rotation and every schedule index names one of the sixteen
message words (the ranges under which `rol`'s shifts and `4 - rnd` mean in Z/2^32 and ℕ what they mean in Python).
A statement of its own about the tables: the proofs below need only `j / 16 ≤ 4`. -/
theorem tables_in_range :
    (∀ r ∈ Generated.rmdRL ++ Generated.rmdRR, 0 < r ∧ r < 32) ∧
    (∀ m ∈ Generated.rmdML ++ Generated.rmdMR, m < 16) ∧
    Generated.rmdML.length = 80 ∧ Generated.rmdMR.length = 80 ∧ Generated.rmdRL.length = 80 ∧
    Generated.rmdRR.length = 80 ∧ Generated.rmdKL.length = 5 ∧ Generated.rmdKR.length = 5 := by
  decide +kernel

/-- the code's chaining state `(h0, …, h4)` -/
abbrev T5 := UInt32 × UInt32 × UInt32 × UInt32 × UInt32
/-- the ten loop variables `(al, bl, cl, dl, el, ar, br, cr, dr, er)` of `compress` -/
abbrev T10 := UInt32 × UInt32 × UInt32 × UInt32 × UInt32 × UInt32 × UInt32 × UInt32 × UInt32 × UInt32

def ofLanes (lr : Lane × Lane) : T10 :=
  (lr.1.a, lr.1.b, lr.1.c, lr.1.d, lr.1.e, lr.2.a, lr.2.b, lr.2.c, lr.2.d, lr.2.e)

def ofState (s : State) : T5 := (s.h0, s.h1, s.h2, s.h3, s.h4)

/-- a fold over 10-tuples whose step acts on the images of lane pairs as `g` does is the fold of `g`
(`List.foldl_rel` as a rewrite rule: in `compress` the fold is a subterm) -/
theorem foldl_ofLanes {F : T10 → Nat → T10} {g : Lane × Lane → Nat → Lane × Lane} {l : List Nat}
    (h : ∀ j ∈ l, ∀ c, F (ofLanes c) j = ofLanes (g c j)) (c : Lane × Lane) :
    l.foldl F (ofLanes c) = ofLanes (l.foldl g c) :=
  List.foldl_rel (r := (· = ofLanes ·)) rfl fun j hj _ _ hc => hc ▸ h j hj _

/-- `compress`: the 80-step loop over a 10-tuple is the model's fold over lane pairs (the step
numbers stay below 80, so both `fi` calls get a round number the code handles) -/
theorem compress_eq (h0 h1 h2 h3 h4 : UInt32) (block : Bytes) :
    CodeObj6.compress h0 h1 h2 h3 h4 block = ofState (Ripemd.compress ⟨h0, h1, h2, h3, h4⟩ block) := by
  unfold CodeObj6.compress Ripemd.compress
  dsimp only
  rw [show (h0, h1, h2, h3, h4, h0, h1, h2, h3, h4) =
      ofLanes (⟨h0, h1, h2, h3, h4⟩, ⟨h0, h1, h2, h3, h4⟩) from rfl,
    foldl_ofLanes (g := stepBoth _)]
  · rfl
  · intro j hj c
    have := List.mem_range.mp hj
    simp only [ofLanes, stepBoth, laneStep, fi_eq _ _ _ _ (by omega : j / 16 ≤ 4),
      fi_eq _ _ _ _ (by omega : 4 - j / 16 ≤ 4), rol_eq]

/-- the block loop `for b in range(len(X) >> 6): state = compress(*state, X[64*b:64*(b+1)])` is the model's `absorb` -/
theorem blocks_eq (s : State) (X : Bytes) :
    CodeObj6.blocks (ofState s) X = ofState (absorb (X.length / 64) s X) := by
  rw [CodeObj6.blocks, RipemdL.absorb_eq_foldl]
  refine List.foldl_rel (r := (· = ofState ·)) rfl fun b _ _ _ hc => ?_
  rw [hc, show 64 * (b + 1) - 64 * b = 64 by omega]
  exact compress_eq ..

/-- `ripemd160`: `(119 - len) & 63` zero bytes of padding, `len & ~63` bytes of whole blocks, and two calls of
`blocks`; the five numerals are `initState` as the translator prints it -/
theorem ripemd160_eq (data : Bytes) : CodeObj6.ripemd160 data = Ripemd.ripemd160 data := by
  have hpad : ((119 - (data.length : Int)) % 64).toNat = padLen data.length := by
    rw [RipemdL.padLen_int]; rfl
  have hdrop : data.length - data.length % 64 = 64 * (data.length / 64) := by omega
  rw [CodeObj6.ripemd160, hpad, hdrop, show ((1732584193, 4023233417, 2562383102, 271733878,
    3285377520) : T5) = ofState initState from rfl, blocks_eq, blocks_eq]
  rfl

end BtcHd.TrRipemd
