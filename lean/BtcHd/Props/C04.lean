/-
C04 — Mnemonic sentences encode entropy losslessly.

Property theorems (helper lemmas are in `Lemmas/Bip39.lean`, `Lemmas/Bip39Words.lean`,
`Lemmas/Bip39Text.lean`).  The model (`Model/Bip39.lean`) mirrors `bip39.py` including the
`bin()` / `zfill` / 11-character-chunk / `int(·, 2)` route; the word list is the one extracted
from the source on every run (`Generated.wordNums`) and is compared here with a frozen copy of
the official list (`Official/Wordlist.lean`).  SHA-256 is a parameter `sha256`; only its output
length (32 bytes) is used.
-/
import BtcHd.Lemmas.Bip39
import BtcHd.Lemmas.Bip39Words

namespace BtcHd.C04
open BtcHd Bip39

theorem correctEntropyBits_eq : Generated.correctEntropyBits = [128, 160, 192, 224, 256] := by
  decide

/-- the sentence lengths computed by `mnemonic_sentence_length` for the accepted sizes are
12, 15, 18, 21, 24 (and this is the table `CORRECT_MNEMONIC_LENGTH` of the source) -/
theorem sentence_lengths :
    Generated.correctEntropyBits.map sentenceLength = [12, 15, 18, 21, 24] ∧
    Generated.correctMnemonicLength = [12, 15, 18, 21, 24] := by decide

/-- `bytes.fromhex(bs.hex()) == bs` -/
theorem fromHex_toHex (bs : Bytes) : fromHex (toHex bs) = some bs := Basics.fromHex_toHex bs

/-- the list embedded in the source is, entry by entry and in order, the frozen official list -/
theorem wordlist_official : Generated.wordNums = Official.wordNums := generated_eq_official

/-- the number form of the frozen list spells the text form `Official.words` (the 2048 words of
`english.txt`) -/
theorem official_text : Official.wordNums.map wordChars = Official.words.map String.toList := by
  rw [official_nums, List.map_map]
  exact List.map_congr_left fun s hs => (official_word hs).2.trans (official_word hs).1.symm

theorem wordlist_length : Official.wordNums.length = 2048 ∧ Official.words.length = 2048 := by
  have := congrArg List.length official_text
  simpa [official_length] using this.symm

theorem wordlist_letters : ∀ w ∈ Official.wordNums,
    3 ≤ (wordChars w).length ∧ (wordChars w).length ≤ 8 ∧
      ∀ c ∈ wordChars w, 'a' ≤ c ∧ c ≤ 'z' := by
  intro w hw
  rw [official_nums] at hw
  obtain ⟨s, hs, rfl⟩ := List.mem_map.mp hw
  obtain ⟨h1, h2, h3⟩ := official_shape hs
  rw [(official_word hs).2, List.length_map]
  refine ⟨h1, h2, fun c hc => ?_⟩
  obtain ⟨d, hd, rfl⟩ := List.mem_map.mp hc
  have := h3 d hd
  exact ⟨(ofNat_le_ofNat (by decide) (by omega)).mpr this.1,
    (ofNat_le_ofNat (by omega) (by decide)).mpr this.2⟩

/-- the words are strictly increasing as strings (lexicographic by code point, as Python
compares `str`): the official, sorted order -/
theorem wordlist_sorted : (Official.wordNums.map wordChars).Pairwise (· < ·) := official_sorted

theorem wordlist_nodup : (Official.wordNums.map wordChars).Nodup ∧ Official.wordNums.Nodup := by
  have h : (Official.wordNums.map wordChars).Nodup :=
    official_sorted.imp fun {a b} (hab : a < b) (heq : a = b) => List.lt_irrefl b (heq ▸ hab)
  exact ⟨h, h.of_map wordChars fun _ _ hab heq => hab (congrArg wordChars heq)⟩

theorem wordAt_injective {i j : Nat} (hi : i < 2048) (hj : j < 2048)
    (h : wordAt i = wordAt j) : i = j := by
  rw [wordAt_of_lt hi, wordAt_of_lt hj, Option.some.injEq] at h
  exact (List.getElem!_inj (official_length ▸ hi) (official_length ▸ hj) wordlist_nodup.2).mp h

/-- the lookup succeeds exactly for indexes below 2048 and returns the official word -/
theorem wordAt_spec (i : Nat) :
    (i < 2048 → ∃ w, wordAt i = some w ∧ Official.wordNums[i]? = some w ∧
      (Official.words[i]?).map String.toList = some (wordChars w)) ∧
    (2048 ≤ i → wordAt i = none) := by
  refine ⟨fun hi => ⟨_, wordAt_of_lt hi, wordAt_eq i ▸ wordAt_of_lt hi, ?_⟩, wordAt_none_of_ge⟩
  rw [← List.getElem?_map, ← official_text, List.getElem?_map, ← wordAt_eq, wordAt_of_lt hi]
  rfl

theorem wordlist_no_space : ∀ w ∈ Official.wordNums, ' ' ∉ wordChars w :=
  fun w hw hc => absurd ((wordlist_letters w hw).2.2 ' ' hc).1 (by decide)

example : Official.wordNums ≠ [] ∧ ∀ w ∈ Official.wordNums, ' ' ∉ wordChars w :=
  ⟨fun e => by simpa [e] using official_length, wordlist_no_space⟩

private theorem textAt {i : Nat} (h : i < 2048) :
    Official.wordNums[i]! ∈ Official.wordNums ∧
      wordChars Official.wordNums[i]! = (Official.words[i]!).toList := by
  obtain ⟨w, _, hw, ht⟩ := (wordAt_spec i).1 h
  obtain ⟨s, hs, e⟩ := Option.map_eq_some_iff.mp ht
  rw [List.getElem!_of_getElem? hw, List.getElem!_of_getElem? hs]
  exact ⟨List.mem_of_getElem? hw, e.symm⟩

private theorem text_injective {i j : Nat} (hi : i < 2048) (hj : j < 2048)
    (h : (Official.words[i]!).toList = (Official.words[j]!).toList) : i = j := by
  have hn : (Official.words.map String.toList).Nodup := official_text ▸ wordlist_nodup.1
  exact (List.getElem!_inj (wordlist_length.2 ▸ hi) (wordlist_length.2 ▸ hj)
    (hn.of_map _ fun _ _ hab heq => hab (congrArg _ heq))).mp (String.toList_inj.mp h)

theorem sentence_words (ws : List Nat) (hne : ws ≠ []) (h : ∀ w ∈ ws, ' ' ∉ wordChars w) :
    Text.splitOn ' ' (sentence ws) = ws.map wordChars :=
  Text.splitOn_join_sep (by simpa using h) (by simpa using hne)

/-- **the whole route**, for every hex text (any case, embedded whitespace) that decodes to
16/20/24/28/32 bytes: `mnemonic_from_entropy` computes 12/15/18/21/24 indexes below 2048 whose
11-bit representations, concatenated, are exactly the entropy bits followed by the first ENT/32
bits of its SHA-256; its words are the official list entries at these indexes; and the sentence,
split at spaces, is the list of these words as text -/
theorem mnemonic_route (sha256 : Bytes → Bytes) (hsha : ∀ x, (sha256 x).length = 32)
    (t : List Char) (eb : Bytes) (ht : fromHex t = some eb)
    (hbits : eb.length * 8 ∈ Generated.correctEntropyBits) :
    ∃ idx, indexesFromEntropy sha256 t = some idx ∧
      idx.length = eb.length * 3 / 4 ∧ (∀ i ∈ idx, i < 2048) ∧
      idx.flatMap (bitsBE 11) =
        bytesBits eb ++ (bytesBits (sha256 eb)).take (eb.length / 4) ∧
      wordsFromEntropy sha256 t = some (idx.map fun i => Official.wordNums[i]!) ∧
      mnemonicFromEntropy sha256 t = some (sentence (idx.map fun i => Official.wordNums[i]!)) ∧
      Text.splitOn ' ' (sentence (idx.map fun i => Official.wordNums[i]!)) =
        idx.map fun i => (Official.words[i]!).toList := by
  have hL : eb.length % 4 = 0 ∧ 16 ≤ eb.length ∧ eb.length ≤ 32 := by
    have := mem_correctEntropyBits.mp hbits; omega
  have hcs : checksumLength (eb.length * 8) = eb.length / 4 := by unfold checksumLength; omega
  have hlen : (bytesBits eb ++ (bytesBits (sha256 eb)).take (eb.length / 4)).length
      = 11 * (eb.length * 3 / 4) := by
    rw [List.length_append, List.length_take, bytesBits_length, bytesBits_length, hsha]; omega
  obtain ⟨idx, hidx, h2, h3, h4⟩ : ∃ idx, indexesFromEntropy sha256 t = some idx ∧
      idx.length = eb.length * 3 / 4 ∧ (∀ i ∈ idx, i < 2048) ∧ idx.flatMap (bitsBE 11) =
        bytesBits eb ++ (bytesBits (sha256 eb)).take (eb.length / 4) := by
    -- unfold, rewrite the zero-filled string into bits, cut it into 11-bit chunks
    unfold indexesFromEntropy
    simp only [ht, Option.bind_some, hbits, hcs]
    rw [entropyChecksum_eq sha256 hsha (by omega) (by omega), List.length_map,
      hlen, Nat.mul_div_cancel_left _ (by decide : 0 < 11)]
    exact ⟨_, rfl, chunks_spec (by decide) _ _ hlen⟩
  have hws : wordsFromEntropy sha256 t = some (idx.map fun i => Official.wordNums[i]!) := by
    rw [wordsFromEntropy, hidx]; exact mapM_wordAt _ h3
  refine ⟨idx, hidx, h2, h3, h4, hws, by rw [mnemonicFromEntropy, hws]; rfl, ?_⟩
  -- no word has a space, so the split gives the words back
  rw [sentence_words _ (by rw [Ne, List.map_eq_nil_iff]; intro e; simp [e] at h2; omega) (by
    intro w hw
    obtain ⟨i, hi, rfl⟩ := List.mem_map.mp hw
    exact wordlist_no_space _ (textAt (h3 i hi)).1), List.map_map]
  exact List.map_congr_left fun i hi => (textAt (h3 i hi)).2

/-- the indexes of `mnemonic_route`; their number is what `mnemonic_sentence_length` computes -/
theorem indexes_spec_hex (sha256 : Bytes → Bytes) (hsha : ∀ x, (sha256 x).length = 32)
    (t : List Char) (eb : Bytes) (ht : fromHex t = some eb)
    (hbits : eb.length * 8 ∈ Generated.correctEntropyBits) :
    ∃ idx, indexesFromEntropy sha256 t = some idx ∧
      idx.length = eb.length * 3 / 4 ∧
      idx.length = sentenceLength (eb.length * 8) ∧
      (∀ i ∈ idx, i < 2048) ∧
      idx.flatMap (bitsBE 11) =
        bytesBits eb ++ (bytesBits (sha256 eb)).take (eb.length / 4) := by
  obtain ⟨idx, h1, h2, h3, h4, _⟩ := mnemonic_route sha256 hsha t eb ht hbits
  refine ⟨idx, h1, h2, ?_, h3, h4⟩
  rw [h2]; unfold sentenceLength checksumLength; omega

example : ∃ (sha256 : Bytes → Bytes) (t : List Char) (eb : Bytes),
    (∀ x, (sha256 x).length = 32) ∧ fromHex t = some eb ∧
      eb.length * 8 ∈ Generated.correctEntropyBits :=
  ⟨fun _ => List.replicate 32 0, " 00Ff".toList ++ List.replicate 28 'a',
    [0, 255] ++ List.replicate 14 170, fun _ => rfl, by decide +kernel, by decide⟩

/-- the same for the canonical lower-case hex of a byte string (the route taken by
`mnemonic_from_entropy_bits`); covers leading-zero and all-zero entropy -/
theorem indexes_spec (sha256 : Bytes → Bytes) (hsha : ∀ x, (sha256 x).length = 32)
    (eb : Bytes) (hbits : eb.length * 8 ∈ Generated.correctEntropyBits) :
    ∃ idx, indexesFromEntropy sha256 (toHex eb) = some idx ∧
      idx.length = eb.length * 3 / 4 ∧
      idx.length = sentenceLength (eb.length * 8) ∧
      (∀ i ∈ idx, i < 2048) ∧
      idx.flatMap (bitsBE 11) =
        bytesBits eb ++ (bytesBits (sha256 eb)).take (eb.length / 4) :=
  indexes_spec_hex sha256 hsha (toHex eb) eb (fromHex_toHex eb) hbits

theorem indexes_determined (xs ys : List Nat) (hx : ∀ i ∈ xs, i < 2048) (hy : ∀ i ∈ ys, i < 2048)
    (h : xs.flatMap (bitsBE 11) = ys.flatMap (bitsBE 11)) : xs = ys :=
  flatMap_inj (Nat.zero_lt_succ 10) (bitsBE_length 11)
    (fun x hx' y hy' e => bitsBE_inj (hx x hx') (hy y hy') e) h

theorem words_spec (sha256 : Bytes → Bytes) (hsha : ∀ x, (sha256 x).length = 32)
    (t : List Char) (eb : Bytes) (ht : fromHex t = some eb)
    (hbits : eb.length * 8 ∈ Generated.correctEntropyBits) :
    ∃ idx ws, indexesFromEntropy sha256 t = some idx ∧ wordsFromEntropy sha256 t = some ws ∧
      ws = idx.map (fun i => Official.wordNums[i]!) ∧
      ws.map some = idx.map (fun i => Official.wordNums[i]?) := by
  obtain ⟨idx, h1, _, h3, _, hw, _⟩ := mnemonic_route sha256 hsha t eb ht hbits
  refine ⟨idx, _, h1, hw, rfl, ?_⟩
  rw [wordsFromEntropy, h1] at hw
  exact (Basics.mapM_eq_some_iff.mp hw).symm

theorem mnemonic_spec (sha256 : Bytes → Bytes) (hsha : ∀ x, (sha256 x).length = 32)
    (t : List Char) (eb : Bytes) (ht : fromHex t = some eb)
    (hbits : eb.length * 8 ∈ Generated.correctEntropyBits) :
    ∃ idx s, indexesFromEntropy sha256 t = some idx ∧ mnemonicFromEntropy sha256 t = some s ∧
      (Text.splitOn ' ' s).length = eb.length * 3 / 4 ∧
      Text.splitOn ' ' s = idx.map (fun i => (Official.words[i]!).toList) := by
  obtain ⟨idx, h1, h2, _, _, _, hs, hsplit⟩ := mnemonic_route sha256 hsha t eb ht hbits
  exact ⟨idx, _, h1, hs, by rw [hsplit, List.length_map, h2], hsplit⟩

/- all-zero 128-bit entropy (`bin(0) = "0"`, 128 leading zero bits), with a stub hash whose
first byte `0x37` is that of the true SHA-256 of sixteen zero bytes: the famous
"abandon × 11, about" -/
example : indexesFromEntropy (fun _ => 0x37 :: List.replicate 31 0) (List.replicate 32 '0')
    = some (List.replicate 11 0 ++ [3]) := by decide +kernel

example : (mnemonicFromEntropy (fun _ => 0x37 :: List.replicate 31 0)
      (List.replicate 32 '0')).map (Text.splitOn ' ')
    = some ((List.replicate 11 "abandon" ++ ["about"]).map String.toList) := by
  -- a literal is `String.ofList` of its characters: rewritten, the kernel need not decode UTF-8
  rw [List.map_append, List.map_replicate, List.map_singleton, String.toList_ofList,
    String.toList_ofList]
  decide +kernel

theorem rejects_wrong_size (sha256 : Bytes → Bytes) (t : List Char) (eb : Bytes)
    (ht : fromHex t = some eb) (hbits : eb.length * 8 ∉ Generated.correctEntropyBits) :
    indexesFromEntropy sha256 t = none ∧ wordsFromEntropy sha256 t = none ∧
      mnemonicFromEntropy sha256 t = none := by
  simp [mnemonicFromEntropy, wordsFromEntropy, indexesFromEntropy, ht, hbits]

example : fromHex "00112233445566778899aabbccddee".toList = some
    [0, 17, 34, 51, 68, 85, 102, 119, 136, 153, 170, 187, 204, 221, 238] ∧
    15 * 8 ∉ Generated.correctEntropyBits := by
  rw [String.toList_ofList]
  decide +kernel

theorem rejects_bad_hex (sha256 : Bytes → Bytes) (t : List Char) (ht : fromHex t = none) :
    indexesFromEntropy sha256 t = none ∧ mnemonicFromEntropy sha256 t = none := by
  simp [mnemonicFromEntropy, wordsFromEntropy, indexesFromEntropy, ht]

example : fromHex "0g".toList = none ∧ fromHex "012".toList = none := by
  rw [String.toList_ofList, String.toList_ofList]
  decide +kernel

theorem mnemonic_isSome_iff (sha256 : Bytes → Bytes) (hsha : ∀ x, (sha256 x).length = 32)
    (t : List Char) :
    (mnemonicFromEntropy sha256 t).isSome ↔
      ∃ eb, fromHex t = some eb ∧ eb.length * 8 ∈ Generated.correctEntropyBits := by
  constructor
  · intro h
    cases ht : fromHex t with
    | none => rw [(rejects_bad_hex sha256 t ht).2] at h; simp at h
    | some eb =>
      refine ⟨eb, rfl, Decidable.byContradiction fun hb => ?_⟩
      rw [(rejects_wrong_size sha256 t eb ht hb).2.2] at h; simp at h
  · rintro ⟨eb, ht, hb⟩
    obtain ⟨_, _, _, _, _, _, hs, _⟩ := mnemonic_route sha256 hsha t eb ht hb
    rw [hs]; rfl

/-- **lossless**: two valid entropies with the same sentence are the same byte string -/
theorem mnemonic_lossless (sha256 : Bytes → Bytes) (hsha : ∀ x, (sha256 x).length = 32)
    (t₁ t₂ : List Char) (e₁ e₂ : Bytes) (ht₁ : fromHex t₁ = some e₁) (ht₂ : fromHex t₂ = some e₂)
    (hb₁ : e₁.length * 8 ∈ Generated.correctEntropyBits)
    (hb₂ : e₂.length * 8 ∈ Generated.correctEntropyBits)
    (h : mnemonicFromEntropy sha256 t₁ = mnemonicFromEntropy sha256 t₂) : e₁ = e₂ := by
  obtain ⟨idx₁, _, a2, a3, a4, _, a6, a7⟩ := mnemonic_route sha256 hsha t₁ e₁ ht₁ hb₁
  obtain ⟨idx₂, _, b2, b3, b4, _, b6, b7⟩ := mnemonic_route sha256 hsha t₂ e₂ ht₂ hb₂
  rw [a6, b6, Option.some.injEq] at h
  -- the same texts in the same order come from the same indexes (`map` = `flatMap` of singletons)
  rw [h, b7, List.map_eq_flatMap, List.map_eq_flatMap] at a7
  obtain rfl : idx₂ = idx₁ := flatMap_inj Nat.one_pos (fun _ => rfl)
    (fun i hi j hj e => text_injective (b3 i hi) (a3 j hj) (List.singleton_inj.mp e)) a7
  have hL₁ := mem_correctEntropyBits.mp hb₁
  have hL₂ := mem_correctEntropyBits.mp hb₂
  have hlen : e₁.length = e₂.length := by omega
  rw [a4] at b4
  exact bytesBits_inj (List.append_inj b4 (by simp [hlen])).1

end BtcHd.C04
