/-
C18 — Invalid children are reported, never returned.

For EVERY primitive instance `P` (hence every PRF output; for child derivation with group order at
most `2 ^ 256`, hypothesis `hn`): master-key generation and private child derivation fail exactly on
the outputs BIP32 declares invalid; for public child derivation an invalid output gives failure.
-/
import BtcHd.Lemmas.Bip32
import BtcHd.Model.Bip85

namespace BtcHd.C18
open BtcHd Bip32 Keys BeFixed

variable {Pt : Type}

/-- left half of the master HMAC output as an integer -/
def masterIL (P : Prims Pt) (seed : Bytes) : Nat :=
  beToNat ((P.hmac512 Generated.masterKeyHmacKey seed).take 32)

/-- the HMAC key of master-key generation is the ASCII string "Bitcoin seed" -/
theorem master_hmac_key :
    Generated.masterKeyHmacKey = [66, 105, 116, 99, 111, 105, 110, 32, 115, 101, 101, 100] := by decide

/-- **Master key**: generation fails iff `IL = 0` or `IL ≥ n` -/
theorem master_error_iff (P : Prims Pt) (seed : Bytes) (t : Bool) :
    masterKey P seed t = none ↔ masterIL P seed = 0 ∨ P.curve.n ≤ masterIL P seed := by
  rw [masterKey_eq, masterIL]
  split <;> simp only [reduceCtorEq, true_iff, false_iff] <;> omega

/-- a returned master key is a valid scalar and is the left HMAC half itself -/
theorem master_valid (P : Prims Pt) (seed : Bytes) (t : Bool) (m : Node) (h : masterKey P seed t = some m) :
    1 ≤ beToNat m.key ∧ beToNat m.key < P.curve.n ∧
      m.key = (P.hmac512 Generated.masterKeyHmacKey seed).take 32 ∧
      m.chainCode = (P.hmac512 Generated.masterKeyHmacKey seed).drop 32 ∧ m.depth = 0 ∧ m.index = 0 ∧
      m.testnet = t ∧ m.isPrv = true := by
  obtain ⟨hv, rfl⟩ := masterKey_eq_some.mp h
  exact ⟨hv.1, hv.2, rfl, rfl, rfl, rfl, rfl, rfl⟩

/-- left half, as an integer, of the child HMAC over `0x00 ‖ ser256(k) ‖ ser32(i)` resp. `serP(k·G) ‖ ser32(i)` -/
def prvIL (P : Prims Pt) (nd : Node) (k i : Nat) : Nat :=
  beToNat ((P.hmac512 nd.chainCode (ckdPrvData P k i)).take 32)

/-- **CKDpriv**: derivation fails iff `IL ≥ n` or `(IL + k_par) mod n = 0` -/
theorem ckdPriv_error_iff (P : Prims Pt) (nd : Node) (k i : Nat) (hk : prvKey P nd = some k)
    (hi : i < 2 ^ 32) (hn : P.curve.n ≤ 2 ^ 256) :
    ckdPrv P nd i = none ↔ P.curve.n ≤ prvIL P nd k i ∨ (prvIL P nd k i + k) % P.curve.n = 0 := by
  rw [ckdPrv_eq P nd i k hk hi hn, prvIL]
  split
  · simp only [true_iff]; omega
  · split <;> simp only [reduceCtorEq, true_iff, false_iff] <;> omega

/-- a returned private child is never zero and never ≥ n -/
theorem ckdPriv_child_valid (P : Prims Pt) (nd c : Node) (k i : Nat) (hk : prvKey P nd = some k)
    (hi : i < 2 ^ 32) (hn : P.curve.n ≤ 2 ^ 256) (hc : ckdPrv P nd i = some c) :
    1 ≤ beToNat c.key ∧ beToNat c.key < P.curve.n ∧ prvIL P nd k i < P.curve.n := by
  obtain ⟨ki, IR, fp, h1, h2, h4, rfl⟩ := ckdPrv_eq_some hk hi hn hc
  rw [mkChild_key, beToNat_beFixed (by omega)]
  exact ⟨h1, h2, h4⟩

/-- **CKDpub**: a hardened index is refused before any primitive is called -/
theorem ckdPub_hardened (P : Prims Pt) (nd : Node) (i : Nat) (hi : 2 ^ 31 ≤ i) : ckdPub P nd i = none :=
  ckdPub_of_hardened P nd hi

/-- left half, as an integer, of the child HMAC over `serP(K) ‖ ser32(i)` (the stored key) -/
def pubIL (P : Prims Pt) (nd : Node) (i : Nat) : Nat :=
  beToNat ((P.hmac512 nd.chainCode (nd.key ++ beFixed 4 i)).take 32)

/-- a returned public child is never the point at infinity, and `IL < n` held -/
theorem ckdPub_child_valid (P : Prims Pt) (nd c : Node) (i : Nat) (hc : ckdPub P nd i = some c) :
    i < 2 ^ 31 ∧ pubIL P nd i < P.curve.n ∧ ∃ K, P.curve.parse nd.key = some K ∧
      P.curve.isInf (P.curve.add (P.curve.mulGen (pubIL P nd i)) K) = false ∧
      c.key = P.curve.sec true (P.curve.add (P.curve.mulGen (pubIL P nd i)) K) := by
  have hi : i < 2 ^ 31 := by
    false_or_by_contra
    rw [ckdPub_of_hardened P nd (by omega)] at hc
    cases hc
  rw [ckdPub_eq P nd hi] at hc
  obtain ⟨il, hil, K, hK, hc⟩ : ∃ il, mkPriv P.curve _ = some il ∧ ∃ K, P.curve.parse nd.key = some K ∧ _ := by
    simpa only [Option.bind_eq_some_iff] using hc
  obtain ⟨_, _, hlt, rfl⟩ := mkPriv_eq_some.mp hil
  split at hc
  · cases hc
  · next hinf =>
    cases hc
    exact ⟨hi, hlt, K, hK, Bool.eq_false_iff.mpr hinf, rfl⟩

/-- **CKDpub**: `IL ≥ n` ⇒ failure; the sum being the point at infinity ⇒ failure -/
theorem ckdPub_error_of (P : Prims Pt) (nd : Node) (i : Nat) (hi : i < 2 ^ 31) :
    (P.curve.n ≤ pubIL P nd i → ckdPub P nd i = none) ∧
    (∀ K, P.curve.parse nd.key = some K →
      P.curve.isInf (P.curve.add (P.curve.mulGen (pubIL P nd i)) K) = true → ckdPub P nd i = none) := by
  rw [ckdPub_eq P nd hi]
  refine ⟨fun h => ?_, fun K hK hinf => ?_⟩
  · rw [mkPriv_eq_none.mpr (.inr (.inr h))]; rfl
  · cases hm : mkPriv P.curve ((P.hmac512 nd.chainCode (nd.key ++ beFixed 4 i)).take 32) with
    | none => rfl
    | some il =>
      obtain rfl : il = pubIL P nd i := (mkPriv_eq_some.mp hm).2.2.2
      rw [Option.bind_some, hK, Option.bind_some, if_pos hinf]

/-- **BIP85**: `correct_key` accepts exactly the secrets in `[1, n-1]` -/
theorem bip85_correctKey_iff (P : Prims Pt) (kb : Bytes) :
    Bip85.correctKey P kb = true ↔ beToNat kb ≠ 0 ∧ beToNat kb < P.curve.n := by
  unfold Bip85.correctKey
  simp

private theorem correctKey_eq_false (P : Prims Pt) {kb : Bytes}
    (hbad : beToNat kb = 0 ∨ P.curve.n ≤ beToNat kb) : Bip85.correctKey P kb = false := by
  rw [← Bool.not_eq_true, bip85_correctKey_iff]
  omega

/-- **BIP85 WIF**: no WIF is emitted for a secret that is zero or ≥ n -/
theorem bip85_wif_refuses (P : Prims Pt) (m : Node) (index : Int) (e : Bytes)
    (he : Bip85.entropy P m (Bip85.fmt Generated.bip85TplWif [index]) = some e)
    (hbad : beToNat (e.take 32) = 0 ∨ P.curve.n ≤ beToNat (e.take 32)) : Bip85.wif P m index = none := by
  rw [Bip85.wif, he, Option.bind_some, correctKey_eq_false P hbad]
  rfl

/-- **BIP85 XPRV**: no extended key is emitted for a secret (right half) that is zero or ≥ n -/
theorem bip85_xprv_refuses (P : Prims Pt) (m : Node) (index : Int) (e : Bytes)
    (he : Bip85.entropy P m (Bip85.fmt Generated.bip85TplXprv [index]) = some e)
    (hbad : beToNat (e.drop 32) = 0 ∨ P.curve.n ≤ beToNat (e.drop 32)) : Bip85.xprv P m index = none := by
  simp only [Bip85.xprv, he, Option.bind_some, correctKey_eq_false P hbad]
  rfl

/-- the failure condition in use: if the PRF returns `n ‖ …` for this parent (hypothesis `hprf`), CKDpriv fails -/
example (P : Prims Pt) (nd : Node) (k : Nat) (hk : prvKey P nd = some k) (hn : P.curve.n ≤ 2 ^ 256)
    (hprf : prvIL P nd k 0 = P.curve.n) : ckdPrv P nd 0 = none :=
  (ckdPriv_error_iff P nd k 0 hk (by decide) hn).mpr (Or.inl (by rw [hprf]; exact Nat.le_refl _))

end BtcHd.C18
