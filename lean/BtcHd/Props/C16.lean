/-
C16 — network tags.

"Everything network-tagged that a wallet emits - the five address kinds, WIFs of derived keys,
extended keys in any SLIP-132 flavour, the coin type in generated BIP44/49/84 paths and the Wasabi
export key - carries the tag of the wallet's own network and never the other one, for every key
and path.  A wallet built from an extended key takes its network from that key's version prefix."

A tag is read back with the decoder of the format concerned (Base58Check payload, Bech32 prefix,
version table, parsed path).  `hlen` (a checksum hash of at least four bytes) is the hypothesis of
the Base58Check round trip (C10).
-/
import BtcHd.Lemmas.Tags
import BtcHd.Props.C06
import BtcHd.Props.C07
import BtcHd.Lemmas.Bech32

namespace BtcHd.C16
open BtcHd Bip32 Wallet Keys Path

variable {Pt : Type}

/-- the flag the wallet reads for addresses, WIFs, versions and the coin type is the flag its nodes carry
(read by the default versions and the Wasabi export) -/
def Consistent (w : Wallet) : Prop := w.testnet = w.master.testnet

/-- every constructor returns a wallet whose flag and whose master node's
flag are both the requested network (for `from_extended_key`: both the same) -/
theorem ctor_consistent (P : Prims Pt) :
    (∀ seed t w, fromSeedBytes P seed t = some w → Consistent w ∧ w.testnet = t) ∧
    (∀ s t w, fromSeedHex P s t = some w → Consistent w ∧ w.testnet = t) ∧
    (∀ m p t w, fromMnemonic P m p t = some w → Consistent w ∧ w.testnet = t) ∧
    (∀ e p t w, fromEntropyHex P e p t = some w → Consistent w ∧ w.testnet = t) ∧
    (∀ rnd n p t w, newWallet P rnd n p t = some w → Consistent w ∧ w.testnet = t) ∧
    (∀ s w, fromExtendedKey P s = some w → Consistent w) := by
  have key : ∀ {w : Wallet} {t : Bool} {m p : Option (List Char)}, Built t m p w →
      Consistent w ∧ w.testnet = t := fun b => ⟨b.testnet.trans b.master_testnet.symm, b.testnet⟩
  refine ⟨fun _ _ _ h => key (fromSeedBytes_fields h), fun _ _ _ h => key (fromSeedHex_fields h),
    fun _ _ _ _ h => key (fromMnemonic_fields h), fun _ _ _ _ h => ?_, fun _ _ _ _ _ h => ?_,
    fun s w h => ?_⟩
  · obtain ⟨_, _, hf⟩ := fromEntropyHex_fields h
    exact key hf
  · obtain ⟨_, _, _, _, hf⟩ := newWallet_fields h
    exact key hf
  · exact (fromExtendedKey_fields h).2

/-- a child node, a node derived along any path, and every generated child keep
the network flag (and the private / public class) of the node they come from -/
theorem ckd_testnet (P : Prims Pt) (nd : Node) :
    (∀ i c, ckd P nd i = some c → c.testnet = nd.testnet ∧ c.isPrv = nd.isPrv) ∧
    (∀ is c, derivePath P nd is = some c → c.testnet = nd.testnet ∧ c.isPrv = nd.isPrv) ∧
    (∀ a b cs, generateChildren P nd a b = some cs →
      ∀ c ∈ cs, c.testnet = nd.testnet ∧ c.isPrv = nd.isPrv) := by
  refine ⟨fun i c h => ⟨Wallet.ckd_testnet h, (ckd_fields h).1⟩,
    fun is c h => ⟨derivePath_testnet h, (derivePath_fields h).1⟩, fun a b cs h c hc => ?_⟩
  obtain ⟨i, _, hck⟩ := Basics.mem_of_mapM_eq_some h hc
  exact ⟨Wallet.ckd_testnet hck, (ckd_fields hck).1⟩

/-- the network constants of the source: address version bytes `00`/`05` (mainnet) and `6f`/`c4`
(testnet), WIF prefixes `80` / `ef`, segwit prefixes `bc` / `tb`; mainnet and testnet values
differ in every kind -/
theorem tag_constants :
    Generated.p2pkhMain = 0x00 ∧ Generated.p2pkhTest = 0x6f ∧
    Generated.p2shMain = 0x05 ∧ Generated.p2shTest = 0xc4 ∧
    Generated.wifMain = 0x80 ∧ Generated.wifTest = 0xef ∧
    Generated.hrpMain = "bc".toList ∧ Generated.hrpTest = "tb".toList ∧
    Generated.p2pkhMain ≠ Generated.p2pkhTest ∧ Generated.p2shMain ≠ Generated.p2shTest ∧
    Generated.wifMain ≠ Generated.wifTest ∧ Generated.hrpMain ≠ Generated.hrpTest := by
  repeat rw [String.toList_ofList]
  decide +kernel

/-- a P2PKH / P2SH address string decodes (Base58Check) to the network's version
byte followed by the 20-byte hash: `6f` / `c4` exactly when `testnet`, `00` / `05` otherwise -/
theorem base58_tag (P : Prims Pt) (hlen : ∀ x, 4 ≤ (P.hash256 x).length) (h160 : Bytes) (t : Bool) :
    Base58.decodeCheck P.hash256 (p2pkhOfH160 P h160 t) = some ((if t then 0x6f else 0x00) :: h160) ∧
    Base58.decodeCheck P.hash256 (p2shOfH160 P h160 t) = some ((if t then 0xc4 else 0x05) :: h160) := by
  exact ⟨C10.decodeCheck_encodeCheck _ hlen _, C10.decodeCheck_encodeCheck _ hlen _⟩

/-- a segwit address is `bech32(hrp, 0, program)` with `hrp = "tb"` exactly when
`testnet` and `"bc"` otherwise; when it exists it starts with that prefix and `1`, decodes under
that prefix to witness version 0 and the program, and is refused under the other prefix -/
theorem segwit_tag (prog : Bytes) (t : Bool) :
    segwitOf prog t = Bech32.encode (if t then "tb".toList else "bc".toList) 0 prog ∧
    ∀ s, segwitOf prog t = some s →
      Bech32.decode (if t then "tb".toList else "bc".toList) s = some (0, prog.map (·.toNat)) ∧
      Bech32.decode (if t then "bc".toList else "tb".toList) s = none ∧
      ∃ rest, s = (if t then "tb".toList else "bc".toList) ++ '1' :: rest := by
  obtain ⟨_, _, _, _, _, _, hm, ht, _, _, _, hne⟩ := tag_constants
  have he : segwitOf prog t = Bech32.encode (if t then "tb".toList else "bc".toList) 0 prog := by
    unfold segwitOf
    rw [hm, ht]
  refine ⟨he, fun s h => ?_⟩
  rw [he] at h
  obtain ⟨_, hdec, five, hb⟩ := Bech32.legal_of_encode_some h
  obtain ⟨_, hs, -⟩ := Bech32.encode_some_symbols h
  refine ⟨hdec, ?_, _, hs⟩
  rw [hm, ht] at hne
  -- the decoder compares the prefix it parsed (`hb`: the encoding prefix) with the requested one
  unfold Bech32.decode
  simp only [hb]
  rw [if_pos]
  cases t
  · exact hne
  · exact hne.symm

/-- all five address functions of the wallet compute the public key of the
node and then apply `p2pkhOfH160` / `p2shOfH160` / `segwitOf` with the network flag they are
given — which `generate` (C06.generate_shape) instantiates with the wallet's own flag -/
theorem address_factor (P : Prims Pt) (t : Bool) (nd : Node) :
    p2pkhAddress P t nd = (pubKey P nd).map (fun K => p2pkhOfH160 P (h160 P K true) t) ∧
    p2wpkhAddress P t nd = (pubKey P nd).bind (fun K => segwitOf (h160 P K true) t) ∧
    p2shP2wpkhAddress P t nd = (pubKey P nd).bind (fun K =>
      (Script.rawSerialize (Script.p2wpkhScript (h160 P K true))).map fun redeem =>
        p2shOfH160 P (hash160 P redeem) t) ∧
    p2wshAddress P t nd = (pubKey P nd).bind (fun K =>
      (Script.rawSerialize (witnessScript P K)).bind fun ws => segwitOf (P.sha256 ws) t) ∧
    p2shP2wshAddress P t nd = (pubKey P nd).bind (fun K =>
      (Script.rawSerialize (witnessScript P K)).bind fun ws =>
        (Script.rawSerialize (Script.p2wshScript (P.sha256 ws))).map fun redeem =>
          p2shOfH160 P (hash160 P redeem) t) :=
  ⟨rfl, rfl, rfl, rfl, rfl⟩

/-- whatever node it is applied to, each of the five address functions returns a
string carrying the tag of the flag it was given and not the other one: the Base58 kinds decode
to a payload starting with `6f` (P2PKH) / `c4` (P2SH) iff testnet and `00` / `05` otherwise; the
segwit kinds decode under `tb` iff testnet and `bc` otherwise, and not under the other prefix -/
theorem address_tag (P : Prims Pt) (hlen : ∀ x, 4 ≤ (P.hash256 x).length) (t : Bool) (nd : Node)
    (s : List Char) :
    (p2pkhAddress P t nd = some s →
      ∃ h, Base58.decodeCheck P.hash256 s = some ((if t then 0x6f else 0x00) :: h)) ∧
    (p2shP2wpkhAddress P t nd = some s →
      ∃ h, Base58.decodeCheck P.hash256 s = some ((if t then 0xc4 else 0x05) :: h)) ∧
    (p2shP2wshAddress P t nd = some s →
      ∃ h, Base58.decodeCheck P.hash256 s = some ((if t then 0xc4 else 0x05) :: h)) ∧
    (p2wpkhAddress P t nd = some s →
      (∃ prog, Bech32.decode (if t then "tb".toList else "bc".toList) s = some (0, prog)) ∧
      Bech32.decode (if t then "bc".toList else "tb".toList) s = none) ∧
    (p2wshAddress P t nd = some s →
      (∃ prog, Bech32.decode (if t then "tb".toList else "bc".toList) s = some (0, prog)) ∧
      Bech32.decode (if t then "bc".toList else "tb".toList) s = none) := by
  have b58 := fun h => base58_tag P hlen h t
  have seg := fun prog => (segwit_tag prog t).2 s
  simp only [p2pkhAddress, pubP2pkh, p2shP2wpkhAddress, p2shP2wshAddress, p2wpkhAddress,
    p2wshAddress, Option.map_eq_some_iff, Option.bind_eq_some_iff]
  refine ⟨?_, ?_, ?_, ?_, ?_⟩
  · rintro ⟨K, _, rfl⟩
    exact ⟨_, (b58 _).1⟩
  · rintro ⟨K, _, r, _, rfl⟩
    exact ⟨_, (b58 _).2⟩
  · rintro ⟨K, _, ws, _, r, _, rfl⟩
    exact ⟨_, (b58 _).2⟩
  · rintro ⟨K, _, h⟩
    exact ⟨⟨_, (seg _ h).1⟩, (seg _ h).2.1⟩
  · rintro ⟨K, _, ws, _, h⟩
    exact ⟨⟨_, (seg _ h).1⟩, (seg _ h).2.1⟩

example : ∀ x, 4 ≤ (Toy.primsW.hash256 x).length :=
  fun x => by rw [Toy.hash256W_length]; decide

/-- a WIF string decodes (Base58Check) to a payload starting with `ef` exactly when
`testnet` and `80` otherwise — for every scalar, compressed or not -/
theorem wif_tag (P : Prims Pt) (hlen : ∀ x, 4 ≤ (P.hash256 x).length) (k : Nat) (c t : Bool) :
    ∃ rest, Base58.decodeCheck P.hash256 (Keys.wif P k c t)
      = some ((if t then 0xef else 0x80) :: rest) :=
  ⟨_, C09.wif_payload P hlen k c t⟩

/-- every WIF of a report row is made with the wallet's own flag, hence carries the wallet's tag -/
theorem row_wif_tag {P : Prims Pt} {w : Wallet} {purpose : Nat} {addr : Node → Option (List Char)}
    {acct a b : Nat} {keys : Json} {rows : List Json} (hlen : ∀ x, 4 ≤ (P.hash256 x).length)
    (hroot : w.master.path = []) (h : bipAccount P w purpose addr acct a b = some (keys, rows))
    {i : Nat} (hi : i < b - a) :
    ∃ p ad sec s rest, rows[i]? = some (.arr [p, ad, sec, .str s]) ∧
      Base58.decodeCheck P.hash256 s = some ((if w.testnet then 0xef else 0x80) :: rest) := by
  obtain ⟨nd, k, ad, _, _, _, _, _, hr⟩ := C06.row_consistent hroot h hi
  exact ⟨_, _, _, _, _, hr, C09.wif_payload P hlen k true w.testnet⟩

example : ∃ keys rows, bipAccount Toy.primsW (Toy.walletW true) 49
      (p2shP2wpkhAddress Toy.primsW true) 1 2 4 = some (keys, rows) ∧
    (Toy.walletW true).master.path = [] ∧ (49 : Nat) < 2 ^ 31 ∧ (1 : Nat) < 2 ^ 31 ∧ 4 ≤ 2 ^ 32 := by
  obtain ⟨_, hj⟩ := Toy.generate_toy
  obtain ⟨_, ⟨k, r⟩, _, _, _, h, _⟩ := generate_eq_some.mp hj
  exact ⟨k, r, h, rfl, by decide, by decide, by decide⟩

/-- the two version tables have no integer in common -/
theorem version_tables_disjoint :
    ∀ v ∈ Generated.versionsTest.map (·.2.2), v ∉ Generated.versionsMain.map (·.2.2) :=
  versionInts_disjoint

/-- the version under which the wallet prints any node's extended key, of either
key type and whatever the node's path, is an entry of the table of the wallet's own network (and
so of no entry of the other, `version_tables_disjoint`); read back with `Version.parse` it gives
the wallet's network -/
theorem extkey_tag (w : Wallet) (nd : Node) (kt v : Nat) (h : nodeVersionInt w nd kt = some v) :
    v ∈ (if w.testnet then Generated.versionsTest else Generated.versionsMain).map (·.2.2) ∧
    ∃ ver, Version.parse v = some ver ∧ ver.testnet = w.testnet :=
  ⟨nodeVersionInt_mem h, versionInts_parse w.testnet v (nodeVersionInt_mem h)⟩

/-- the default versions (`version=None`) follow the node's own flag: `tpub` / `tprv` on a testnet
node, `xpub` / `xprv` otherwise -/
theorem default_version_tag (nd : Node) :
    pubVersion nd = (if nd.testnet then 0x043587CF else 0x0488B21E) ∧
    prvVersion nd = (if nd.testnet then 0x04358394 else 0x0488ADE4) ∧
    Version.parse (pubVersion nd) = some ⟨1, 0, nd.testnet⟩ ∧
    Version.parse (prvVersion nd) = some ⟨0, 0, nd.testnet⟩ := by
  unfold pubVersion prvVersion
  cases nd.testnet <;> decide

/-- an extended key string printed by the wallet (`node_extended_public_key`
/ `node_extended_private_key`) is the Base58Check form of bytes whose first four are a version
of the wallet's own network -/
theorem printed_key_tag {P : Prims Pt} {w : Wallet} {nd : Node} {s : List Char}
    (h : nodeExtendedPublicKey P w nd = some s ∨ nodeExtendedPrivateKey P w nd = some s) :
    ∃ v ser ver, s = Base58.encodeCheck P.hash256 ser ∧ beToNat (ser.take 4) = v ∧
      v ∈ (if w.testnet then Generated.versionsTest else Generated.versionsMain).map (·.2.2) ∧
      Version.parse v = some ver ∧ ver.testnet = w.testnet := by
  have key : ∃ kt v ser, nodeVersionInt w nd kt = some v ∧
      s = Base58.encodeCheck P.hash256 ser ∧ beToNat (ser.take 4) = v := by
    rcases h with h | h
    · obtain ⟨v, hv, h⟩ := nodeExtendedPublicKey_eq_some.mp h
      obtain ⟨ser, hs, h4⟩ := extendedPublicKey_version h
      exact ⟨1, v, ser, hv, hs, h4⟩
    · obtain ⟨_, v, hv, h⟩ := nodeExtendedPrivateKey_eq_some.mp h
      obtain ⟨ser, hs, h4⟩ := extendedPrivateKey_version h
      exact ⟨0, v, ser, hv, hs, h4⟩
  obtain ⟨kt, v, ser, hv, hs, h4⟩ := key
  obtain ⟨hmem, ver, hver, ht⟩ := extkey_tag w nd kt v hv
  exact ⟨v, ser, ver, hs, h4, hmem, hver, ht⟩

/-- every path string of an account block — the account path and the path of each
row — reads back (`Bip32Path.parse`) as a path whose second level is `1'` exactly on a testnet
wallet and `0'` otherwise (purpose and account below 2^31, indexes below 2^32, as derivation
requires) -/
theorem coin_tag {P : Prims Pt} {w : Wallet} {purpose : Nat} {addr : Node → Option (List Char)}
    {acct a b : Nat} {keys : Json} {rows : List Json} (hroot : w.master.path = [])
    (hp : purpose < 2 ^ 31) (ha : acct < 2 ^ 31) (hb : b ≤ 2 ^ 32)
    (h : bipAccount P w purpose addr acct a b = some (keys, rows)) :
    (∃ s pub prv lv, keys = .obj [("path".toList, .str s), ("pub".toList, pub), ("prv".toList, prv)] ∧
      Path.parse s = some ⟨lv, true⟩ ∧
      lv[1]? = some (if w.testnet then 1 + 2 ^ 31 else 2 ^ 31)) ∧
    ∀ i, i < b - a → ∃ s ad sec wif lv, rows[i]? = some (.arr [.str s, ad, sec, wif]) ∧
      Path.parse s = some ⟨lv, true⟩ ∧
      lv[1]? = some (if w.testnet then 1 + 2 ^ 31 else 2 ^ 31) := by
  -- both halves need it as the entry `lv[1]?`
  have hc : some (coinLevel w) = some (if w.testnet then 1 + 2 ^ 31 else 2 ^ 31) :=
    congrArg some (coinLevel_eq w)
  constructor
  · obtain ⟨_, pub, prv, _, _, _, hk⟩ := C06.acct_path hroot h
    exact ⟨_, _, _, _, hk, C06.parse_acct_path w hp ha true, hc⟩
  · intro i hi
    obtain ⟨_, _, _, _, _, _, _, _, hr⟩ := C06.row_consistent hroot h hi
    exact ⟨_, _, _, _, _, hr, C06.parse_row_path w hp ha (by omega) true, hc⟩

/-- the two coin levels differ, so a path never carries the other network's coin type -/
theorem coin_levels_differ : (1 + 2 ^ 31 : Nat) ≠ 2 ^ 31 := by decide

/-- a wallet built from an extended-key string takes its network — the wallet's
flag and its master node's flag alike — from the version read in the first four payload bytes -/
theorem import_tag (P : Prims Pt) (s : List Char) (w : Wallet) (h : fromExtendedKey P s = some w) :
    ∃ payload v, Base58.decodeCheck P.hash256 s = some payload ∧
      Version.parse (beToNat (payload.take 4)) = some v ∧
      w.testnet = v.testnet ∧ w.master.testnet = v.testnet ∧
      w.master.isPrv = decide (v.keyType = 0) := by
  obtain ⟨payload, v, hd, hv, rfl⟩ := (C07.fromExtendedKey_spec P s w).mp h
  exact ⟨payload, v, hd, hv, rfl, rfl, rfl⟩

/-- for each of the twelve versions, the network `Version.parse` reads is that of the table the
version stands in: t/u/v-pub/prv are testnet, x/y/z-pub/prv are mainnet -/
theorem version_network_table :
    (∀ v ∈ Generated.versionsTest.map (·.2.2), (Version.parse v).map (·.testnet) = some true) ∧
    (∀ v ∈ Generated.versionsMain.map (·.2.2), (Version.parse v).map (·.testnet) = some false) := by
  constructor <;> intro v hv
  · obtain ⟨ver, h, ht⟩ := versionInts_parse true v hv
    rw [h, Option.map_some, ht]
  · obtain ⟨ver, h, ht⟩ := versionInts_parse false v hv
    rw [h, Option.map_some, ht]

/-- `from_extended_key` accepts every key string the wallet prints, and builds a wallet on the
printing wallet's network -/
theorem import_printed {P : Prims Pt} (hlen : ∀ x, 4 ≤ (P.hash256 x).length) {w : Wallet}
    {nd : Node} {s : List Char}
    (h : nodeExtendedPublicKey P w nd = some s ∨ nodeExtendedPrivateKey P w nd = some s) :
    ∃ w', fromExtendedKey P s = some w' ∧ w'.testnet = w.testnet ∧
      w'.master.testnet = w.testnet := by
  obtain ⟨v, ser, ver, rfl, h4, _, hver, ht⟩ := printed_key_tag h
  exact ⟨_, XKey.fromExtendedKey_of_version P hlen h4 hver, ht, ht⟩

/-- importing an extended key that a wallet printed gives a wallet on the
same network, whatever the node, key type or BIP flavour -/
theorem export_import_tag {P : Prims Pt} (hlen : ∀ x, 4 ≤ (P.hash256 x).length) {w w' : Wallet}
    {nd : Node} {s : List Char}
    (h : nodeExtendedPublicKey P w nd = some s ∨ nodeExtendedPrivateKey P w nd = some s)
    (hi : fromExtendedKey P s = some w') :
    w'.testnet = w.testnet ∧ w'.master.testnet = w.testnet := by
  obtain ⟨w'', hi', e⟩ := import_printed hlen h
  rw [hi, Option.some.injEq] at hi'
  exact hi' ▸ e

/-- non-vacuity: the toy wallets print extended keys (public, of the master; private, of a derived
node) that `from_extended_key` accepts -/
example : (∃ s w', nodeExtendedPublicKey Toy.primsW (Toy.walletW true) (Toy.masterW true) = some s ∧
      fromExtendedKey Toy.primsW s = some w') ∧
    (∃ nd s w', nodeExtendedPrivateKey Toy.primsW (Toy.walletW false) nd = some s ∧
      fromExtendedKey Toy.primsW s = some w') := by
  constructor
  · obtain ⟨w', h⟩ := Option.isSome_iff_exists.mp Toy.export_import_toy
    obtain ⟨s, hs, hw⟩ := Option.bind_eq_some_iff.mp h
    exact ⟨s, w', hs, hw⟩
  · obtain ⟨w', h⟩ := Option.isSome_iff_exists.mp Toy.export_import_prv_toy
    obtain ⟨s, hs, hw⟩ := Option.bind_eq_some_iff.mp h
    obtain ⟨nd, _, hs⟩ := Option.bind_eq_some_iff.mp hs
    exact ⟨nd, s, w', hs, hw⟩

/-- the `ExtPubKey` of the Wasabi export is the Base58Check form of bytes starting
with the default public version of a node on the master node's network: `tpub` when the master
is a testnet node, `xpub` otherwise (for a wallet from any constructor that is the wallet's own
network, `ctor_consistent`) -/
theorem wasabi_tag {P : Prims Pt} {w : Wallet} {j : Json} (h : wasabi P w = some j) :
    ∃ nd x fp ser,
      j = .obj [("ExtPubKey".toList, .str x), ("MasterFingerprint".toList, .str fp),
                ("ColdCardFirmwareVersion".toList, .str "3.1.3".toList)] ∧
      derivePath P w.master [84 + 2 ^ 31, 2 ^ 31, 2 ^ 31] = some nd ∧
      nd.testnet = w.master.testnet ∧
      x = Base58.encodeCheck P.hash256 ser ∧
      beToNat (ser.take 4) = pubVersion nd ∧
      pubVersion nd = (if w.master.testnet then 0x043587CF else 0x0488B21E) ∧
      Version.parse (pubVersion nd) = some ⟨1, 0, w.master.testnet⟩ := by
  obtain ⟨nd, x, fp, h1, h2, _, rfl⟩ := (C06.wasabi_spec P w j).mp h
  obtain ⟨ser, rfl, h4⟩ := extendedPublicKey_version h2
  have ht := derivePath_testnet h1
  obtain ⟨d1, _, d3, _⟩ := default_version_tag nd
  exact ⟨nd, _, _, ser, rfl, h1, ht, rfl, h4, by rw [d1, ht], by rw [d3, ht]⟩

example (t : Bool) : ∃ j, wasabi Toy.primsW (Toy.walletW t) = some j :=
  Option.isSome_iff_exists.mp (Toy.wasabi_toy t)

end BtcHd.C16
