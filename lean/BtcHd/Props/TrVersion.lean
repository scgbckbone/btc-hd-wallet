/-
Translated Python (`BtcHd.CodeObj4`, generated from /repo's `wallet_utils.py` by harness/translate_obj4.py) = model:
the `Version` class (tables, `__int__`, `parse`, `valid_version`, `bip`, the helper lists and `bipNN_data`) and the
remaining `Bip32Path` methods (`m`, the predicates, `bip`, `to_list`, `repr_hardened`, `__repr__`, `__eq__`).
The tables and enum values are READ from the source; the method bodies are shape-checked (header of the translator).
-/
import BtcHd.Generated.CodeObj4
import BtcHd.Props.TrPath

namespace BtcHd.TrVersion
open BtcHd BtcHd.Translated

/-- the tables of the class body are the extracted tables the model is defined over -/
theorem tables_eq : CodeObj4.version_main = Generated.versionsMain ∧ CodeObj4.version_test = Generated.versionsTest :=
  ⟨by decide, by decide⟩

/-- `Version.__int__` is the model's `Version.toInt` -/
theorem int_eq (v : Path.Version) : CodeObj4.v_int v = v.toInt := by
  unfold CodeObj4.v_int Path.Version.toInt Path.lookup CodeObj4.tbl2
  rw [tables_eq.1, tables_eq.2]
  cases v.testnet <;> rfl

theorem lists_eq :
    CodeObj4.v_mainnet_versions = Extra.mainnetVersions ∧ CodeObj4.v_testnet_versions = Extra.testnetVersions ∧
    CodeObj4.v_prv_versions = some Extra.prvVersions ∧ CodeObj4.v_pub_versions = some Extra.pubVersions ∧
    CodeObj4.v_bip44_data = some Extra.bip44Data ∧ CodeObj4.v_bip49_data = some Extra.bip49Data ∧
    CodeObj4.v_bip84_data = some Extra.bip84Data := by
  decide +kernel

/-- `Version.key_versions(name)`: defined exactly for the two member names of `Key` -/
theorem key_versions_eq (name : List Char) :
    CodeObj4.v_key_versions name =
      if name = ['P', 'R', 'V'] then Extra.keyVersions 0 else if name = ['P', 'U', 'B'] then Extra.keyVersions 1 else none := by
  unfold CodeObj4.v_key_versions CodeObj4.key_names
  rw [tables_eq.1, tables_eq.2]
  by_cases h1 : name = ['P', 'R', 'V']
  · subst h1; rfl
  · by_cases h2 : name = ['P', 'U', 'B']
    · subst h2; rfl
    · simp [List.lookup, beq_false_of_ne h1, beq_false_of_ne h2, h1, h2]

/-- searching a table for a row with a property and the number `v` in its last column is membership of
`v` in that column of the rows with the property -/
theorem any_iff_mem (tbl : List (Nat × Nat × Nat)) (p : Nat × Nat × Nat → Prop) [DecidablePred p]
    (v : Nat) :
    (tbl.any fun e => decide (p e ∧ e.2.2 = v)) = true ↔ v ∈ (tbl.filter (p ·)).map (·.2.2) := by
  simp only [List.any_eq_true, decide_eq_true_eq, List.mem_map, List.mem_filter]
  exact ⟨fun ⟨e, he, h1, h2⟩ => ⟨e, ⟨he, h1⟩, h2⟩, fun ⟨e, ⟨he, h1⟩, h2⟩ => ⟨e, he, h1, h2⟩⟩

theorem parse_eq (v : Nat) :
    CodeObj4.v_valid_version v = Path.validVersion v ∧ CodeObj4.v_bip v = some (Path.versionBip v) ∧
      CodeObj4.v_parse v = Path.Version.parse v := by
  have hvalid : CodeObj4.v_valid_version v = Path.validVersion v := by
    unfold CodeObj4.v_valid_version Path.validVersion Path.allVersions
    rw [lists_eq.1, lists_eq.2.1]
    rfl
  have hbip : CodeObj4.v_bip v = some (Path.versionBip v) := by
    -- the code looks `v` up in the `bipNN_data` lists, the model in the rows of the tables with that
    -- `bip`: the same numbers in another order
    have key (b : Nat) {L : List Nat} (hL : (((Generated.versionsMain ++ Generated.versionsTest).filter
        (·.2.1 = b)).map (·.2.2)).Perm L) :
        ((Generated.versionsMain ++ Generated.versionsTest).any fun e =>
          decide (e.2.1 = b ∧ e.2.2 = v)) = true ↔ v ∈ L :=
      (any_iff_mem _ _ v).trans hL.mem_iff
    unfold CodeObj4.v_bip Path.versionBip
    rw [lists_eq.2.2.2.2.1, lists_eq.2.2.2.2.2.1, lists_eq.2.2.2.2.2.2]
    simp only [Option.pure_def, Option.bind_eq_bind, Option.bind_some,
      key 0 (L := Extra.bip44Data.map (·.2)) (by decide),
      key 1 (L := Extra.bip49Data.map (·.2)) (by decide),
      key 2 (L := Extra.bip84Data.map (·.2)) (by decide)]
    split_ifs <;> rfl
  refine ⟨hvalid, hbip, ?_⟩
  unfold CodeObj4.v_parse Path.Version.parse
  rw [hvalid, hbip, lists_eq.2.1, lists_eq.2.2.1]
  cases hv : Path.validVersion v
  · simp
  · have hp : Extra.prvVersions =
        ((Generated.versionsTest ++ Generated.versionsMain).filter (·.1 = 0)).map (·.2.2) := by decide
    simp only [not_true_eq_false, ↓reduceIte, Option.pure_def, Option.bind_eq_bind, Option.bind_some,
      any_iff_mem _ (·.1 = 0) v, ← hp, decide_eq_true_eq]
    rfl

theorem path_methods_eq (p q : Path.Path) :
    CodeObj4.p_m p = Extra.pathMark p ∧ CodeObj4.p_bitcoin_testnet p = Extra.bitcoinTestnet p ∧
    CodeObj4.p_bitcoin_mainnet p = Extra.bitcoinMainnet p ∧ CodeObj4.p_external_chain p = Extra.externalChain p ∧
    CodeObj4.p_bip44 p = Extra.bip44 p ∧ CodeObj4.p_bip49 p = Extra.bip49 p ∧ CodeObj4.p_bip84 p = Extra.bip84 p ∧
    CodeObj4.p_bip p = Extra.pathBip p ∧ CodeObj4.p_eq p q = Extra.pathEq p q := by
  have hm (r : Path.Path) : CodeObj4.p_m r = Extra.pathMark r := by
    unfold CodeObj4.p_m Extra.pathMark; cases r.priv <;> rfl
  -- the code tests with `decide (_ = _)`, the model with `==`
  have b44 : CodeObj4.p_bip44 p = Extra.bip44 p := (beq_eq_decide _ _).symm
  have b49 : CodeObj4.p_bip49 p = Extra.bip49 p := (beq_eq_decide _ _).symm
  have b84 : CodeObj4.p_bip84 p = Extra.bip84 p := (beq_eq_decide _ _).symm
  refine ⟨hm p, (beq_eq_decide _ _).symm, (beq_eq_decide _ _).symm, (beq_eq_decide _ _).symm,
    b44, b49, b84, ?_, ?_⟩
  · unfold CodeObj4.p_bip Extra.pathBip; rw [b44, b49, b84]
  · unfold CodeObj4.p_eq Extra.pathEq
    simp only [hm, Bool.decide_and, Bool.and_assoc, beq_eq_decide]

/-- `to_list()` returns the levels and `__repr__` is the model's `format`, for every path of at most five levels (what
`Bip32Path` objects are: five slots) -/
theorem repr_eq (p : Path.Path) (h : p.levels.length ≤ 5) :
    CodeObj4.p_to_list p = p.levels ∧ CodeObj4.p_repr p = Path.format p := by
  have hl : CodeObj4.p_to_list p = p.levels := by
    obtain ⟨ls, pv⟩ := p
    match ls, h with
    | [], _ => rfl
    | [a], _ => rfl
    | [a, b], _ => rfl
    | [a, b, c], _ => rfl
    | [a, b, c, d], _ => rfl
    | [a, b, c, d, e], _ => rfl
    | _ :: _ :: _ :: _ :: _ :: _ :: _, h => simp at h
  have hr : CodeObj4.p_repr_hardened = Path.reprHardened := by
    funext n
    unfold CodeObj4.p_repr_hardened Path.reprHardened
    rw [isHardened_eq]
    simp only [decide_eq_true_eq, ge_iff_le]
  refine ⟨hl, ?_⟩
  unfold CodeObj4.p_repr Path.format CodeObj4.p_m
  rw [hl, hr]
  cases p.priv <;> rfl

end BtcHd.TrVersion
