/-
Translated Python (`BtcHd.Code`, generated from /repo by harness/translate.py) = hand-written model:
the argument validators of `__main__.py` — `value_in_interval`, `address_index`, `account_index`, `extended_key`,
`mnemonic`, `bip39_seed`, `entropy_hex` (C20).  `int(text)` is mapped to the model's `Cli.pyInt`, `str.split(" ")` and
`str.strip()` to `Text.splitOn` / `Text.strip`; `file_` (pathlib / os.access) and argparse itself are not translated.
-/
import BtcHd.Lemmas.Translated
import BtcHd.Model.Cli

namespace BtcHd.Translated
open BtcHd

/-- stated for `min_ = 0`, which is what both callers pass -/
theorem value_in_interval_eq (v : List Char) (mx : Nat) (name : List Char) :
    Code.value_in_interval v 0 mx name = (Cli.valueInInterval v mx).map Int.ofNat := by
  unfold Code.value_in_interval Cli.valueInInterval
  rw [Option.map_bind]
  refine Option.bind_congr fun x _ => ?_
  by_cases h : 0 ≤ x ∧ x < (mx : Int)
  · simp [h, Int.toNat_of_nonneg h.1]
  · simp [h]

/-- the bounds of `address_index` and `account_index` are the `Generated` constants, read from the source -/
theorem address_index_eq (v : List Char) :
    Code.address_index v = (Cli.addressIndex v).map Int.ofNat := by
  unfold Code.address_index
  exact value_in_interval_eq v Generated.cliAddressMax _

theorem account_index_eq (v : List Char) :
    Code.account_index v = (Cli.accountIndex v).map Int.ofNat := by
  unfold Code.account_index
  exact value_in_interval_eq v Generated.cliAccountMax _

theorem extended_key_arg_eq (v : List Char) : Code.extended_key_arg v = Cli.extendedKeyArg v :=
  guard_eq _ _

theorem mnemonic_arg_eq (v : List Char) : Code.mnemonic_arg v = Cli.mnemonicArg v :=
  guard_eq _ _

theorem bip39_seed_arg_eq (v : List Char) : Code.bip39_seed_arg v = Cli.seedArg v :=
  guard_eq _ _

theorem entropy_hex_arg_eq (v : List Char) : Code.entropy_hex_arg v = Cli.entropyArg v :=
  guard_eq _ _

example : Code.account_index "2147483646".toList = some 2147483646 := by
  rw [String.toList_ofList]; decide +kernel
example : Code.account_index "2147483647".toList = none := by rw [String.toList_ofList]; decide +kernel
example : Code.address_index "-1".toList = none := by rw [String.toList_ofList]; decide +kernel
example : Code.mnemonic_arg " a b".toList = none := by rw [String.toList_ofList]; decide +kernel

end BtcHd.Translated
