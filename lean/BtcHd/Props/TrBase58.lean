/-
Translated Python (`BtcHd.Code`, generated from /repo by harness/translate.py) = hand-written model:
`helper.py` `encode_base58`, `decode_base58`, `encode_base58_checksum`, `decode_base58_checksum`,
`b58decode_addr`, `little_endian_to_int`, `big_endian_to_int`, `int_to_big_endian` — the whole Base58Check
pipeline of C10 (the double SHA-256 is a parameter on both sides).
-/
import BtcHd.Lemmas.TrBase58

namespace BtcHd.Translated
open BtcHd Basics

theorem encode_base58_eq (data : Bytes) : Code.encode_base58 data = Base58.encode data := by
  -- the loop over `range(num + 1)` has fuel enough to run the division to 0
  have hloop := forIn_break (m := Id) (α := Nat) (fun s : Nat × List Char => s.1 > 0)
    (fun s => (s.1 / 58, [Generated.base58Alphabet[s.1 % 58]!] ++ s.2))
    (List.range (beToNat data + 1)) (beToNat data, [])
  rw [List.length_range, while_encBody _ _ _ (Nat.lt_succ_self _)] at hloop
  unfold Code.encode_base58
  simp only [bind_pure_comp, pure_bind, forIn_lead (m := Id) (0 : UInt8), Prod.mk.eta, hloop,
    Nat.zero_add, ← Base58.leadingZeros_eq]
  rfl

/-- the `hex()` / `bytes.fromhex` route, the `s[:-1]` pad count and the `ValueError` on a foreign
character included -/
theorem decode_base58_eq (s : List Char) : Code.decode_base58 s = Base58.decode s := by
  unfold Code.decode_base58 Base58.decode
  simp only []
  rw [forIn_decNum]
  cases Base58.decNum s 0 with
  | none => rfl
  | some num =>
    have := fromHex_hexPad num
    unfold hexPad at this
    simp only [Option.bind_eq_bind, Option.bind_some, Option.map_some, this,
      forIn_lead (m := Option), alphaAt_eq (i := 0) (by decide), dropLastN_one, Nat.zero_add,
      ← Base58.leadingOnes_eq]
    rfl

theorem encode_base58_checksum_eq (h : Bytes → Bytes) (data : Bytes) :
    Code.encode_base58_checksum h data = Base58.encodeCheck h data := by
  unfold Code.encode_base58_checksum Base58.encodeCheck
  simp only [Id.run_pure, encode_base58_eq]

theorem decode_base58_checksum_eq (h : Bytes → Bytes) (s : List Char) :
    Code.decode_base58_checksum h s = Base58.decodeCheck h s := by
  unfold Code.decode_base58_checksum Base58.decodeCheck
  rw [decode_base58_eq]
  exact Option.bind_congr fun raw _ => guard_eq _ _

theorem b58decode_addr_eq (h : Bytes → Bytes) (s : List Char) :
    Code.b58decode_addr h s = Base58.decodeAddr h s := by
  unfold Code.b58decode_addr Base58.decodeAddr
  rw [decode_base58_checksum_eq]
  exact (Option.map_eq_bind ..).symm

theorem int_helpers_eq (b : Bytes) (n len : Nat) :
    Code.little_endian_to_int b = leToNat b ∧ Code.big_endian_to_int b = beToNat b ∧
      Code.int_to_big_endian n len = toBytesBE len n :=
  ⟨rfl, rfl, rfl⟩

example : Code.encode_base58 [0, 0, 1, 2] = "115T".toList := by rw [String.toList_ofList]; decide +kernel
example : Code.decode_base58 "115T".toList = some [0, 0, 1, 2] := by
  rw [String.toList_ofList]; decide +kernel
example : Code.decode_base58 "10".toList = none := by rw [String.toList_ofList]; decide +kernel

end BtcHd.Translated
