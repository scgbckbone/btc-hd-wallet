/-
C19 — Script and varint wire encodings.

Property theorems only (helper lemmas are in `Lemmas/Script.lean`, which also
defines the vocabulary used in the statements: `Cmd.WF`, `Wire`, `Wires`).

* `Cmd.WF c`   : `c` is an opcode `0` / `78..255`, or a data element of 1..520 bytes.
* `Wire c ch`  : the bytes `ch` are one of the wire forms read back as the command `c`
                 (opcode byte; length byte 1..75 + data; 76, len, data; 77, lo, hi, data).
* `Wires cs b` : `b` is the concatenation of wire forms of the commands `cs`.
-/
import BtcHd.Lemmas.Script

namespace BtcHd.C19
open BtcHd Varint Script ScriptLemmas

/-- `int_to_little_endian(n, len)` always has exactly `len` bytes. -/
theorem leFixed_length (len n : Nat) : (leFixed len n).length = len :=
  BeFixed.leFixed_length len n

theorem leToNat_leFixed {len n : Nat} (h : n < 256 ^ len) : leToNat (leFixed len n) = n :=
  BeFixed.leToNat_leFixed h

example : (0x1234 : Nat) < 256 ^ 2 ∧ leFixed 2 0x1234 = [0x34, 0x12] := by decide

theorem leFixed_leToNat (bs : Bytes) :
    leFixed bs.length (leToNat bs) = bs ∧ leToNat bs < 256 ^ bs.length :=
  ⟨BeFixed.leFixed_leToNat rfl, BeFixed.leToNat_lt bs⟩

/-- The varint encoding is the standard one: one byte (the value) below 0xfd, then 0xfd + 2,
0xfe + 4, 0xff + 8 little-endian bytes for values below 2^16, 2^32, 2^64. -/
theorem encodeVarint_minimal (n : Nat) :
    (n < 0xfd → encodeVarint n = some [UInt8.ofNat n]) ∧
    (0xfd ≤ n → n < 2 ^ 16 → encodeVarint n = some (0xfd :: leFixed 2 n)) ∧
    (2 ^ 16 ≤ n → n < 2 ^ 32 → encodeVarint n = some (0xfe :: leFixed 4 n)) ∧
    (2 ^ 32 ≤ n → n < 2 ^ 64 → encodeVarint n = some (0xff :: leFixed 8 n)) := by
  -- in each size class one implication is the equation `e`; the bounds of the others contradict it
  rcases encodeVarint_cases n with ⟨_, e⟩ | ⟨_, _, e⟩ | ⟨_, _, e⟩ | ⟨_, _, e⟩ | ⟨_, e⟩ <;>
    refine ⟨fun _ => ?_, fun _ _ => ?_, fun _ _ => ?_, fun _ _ => ?_⟩ <;>
    first | exact e | omega

theorem encodeVarint_length {n : Nat} {enc : Bytes} (h : encodeVarint n = some enc) :
    enc.length = if n < 0xfd then 1 else if n < 2 ^ 16 then 3 else if n < 2 ^ 32 then 5 else 9 := by
  rcases encodeVarint_cases n with ⟨h1, e⟩ | ⟨_, _, e⟩ | ⟨_, _, e⟩ | ⟨_, _, e⟩ | ⟨_, e⟩ <;>
    rw [e] at h <;> cases h <;>
    simp only [List.length_cons, BeFixed.leFixed_length, List.length_nil]
  · rw [if_pos h1]
  · rw [if_neg (by omega), if_pos (by omega)]
  · rw [if_neg (by omega), if_neg (by omega), if_pos (by omega)]
  · rw [if_neg (by omega), if_neg (by omega), if_neg (by omega)]

theorem encodeVarint_isSome_iff (n : Nat) : (encodeVarint n).isSome ↔ n < 2 ^ 64 := by
  rcases encodeVarint_cases n with ⟨_, e⟩ | ⟨_, _, e⟩ | ⟨_, _, e⟩ | ⟨_, _, e⟩ | ⟨_, e⟩ <;>
    rw [e] <;> simp <;> omega

theorem encodeVarint_large {n : Nat} (h : 2 ^ 64 ≤ n) : encodeVarint n = none :=
  Option.not_isSome_iff_eq_none.mp fun hs => absurd ((encodeVarint_isSome_iff n).mp hs) (by omega)

/-- Every value below 2^64 has a varint encoding, and reading it back (with anything after it)
returns the value and leaves exactly what followed. -/
theorem readVarint_encodeVarint {n : Nat} (h : n < 2 ^ 64) :
    ∃ enc, encodeVarint n = some enc ∧ ∀ rest, readVarint (enc ++ rest) = some (n, rest) := by
  obtain ⟨enc, he⟩ := Option.isSome_iff_exists.mp ((encodeVarint_isSome_iff n).mpr h)
  exact ⟨enc, he, ScriptLemmas.readVarint_encodeVarint he⟩

example : encodeVarint 300 = some [0xfd, 0x2c, 0x01] ∧
    readVarint [0xfd, 0x2c, 0x01, 9] = some (300, [9]) := by decide

/-- Shortest form: no byte string that `readVarint` decodes (completely) to `n` is shorter
than `encodeVarint n`. -/
theorem encodeVarint_shortest {n : Nat} {enc s : Bytes} (h : encodeVarint n = some enc)
    (hs : readVarint s = some (n, [])) : enc.length ≤ s.length := by
  have := readVarint_value_lt hs
  rw [encodeVarint_length h]
  (repeat' split) <;> omega

-- the decoder itself also accepts over-long forms (300 as 0xfe + 4 bytes); the encoder never emits them
example : readVarint [0xfe, 0x2c, 0x01, 0, 0] = some (300, []) ∧
    encodeVarint 300 = some [0xfd, 0x2c, 0x01] := by decide

/-- A varint cut short is never accepted: every proper prefix of an encoding fails to read. -/
theorem readVarint_truncated {n : Nat} {enc : Bytes} (h : encodeVarint n = some enc)
    (pre : Bytes) (hp : pre <+: enc) (hne : pre ≠ enc) : readVarint pre = none :=
  ScriptLemmas.readVarint_truncated (readVarint_encode h) hp hne

example : [0xfd, 0x2c] <+: [0xfd, 0x2c, 0x01] ∧ readVarint [0xfd, 0x2c] = none := by decide

/-- Data elements: a bare length byte for 0..75 bytes, `76, len` for 76..255, `77, lo, hi`
(little-endian length) for 256..520, and refusal above 520 bytes. -/
theorem push_form (d : Bytes) :
    (d.length ≤ 75 → serCmd (.data d) = some ([UInt8.ofNat d.length] ++ d)) ∧
    (76 ≤ d.length → d.length ≤ 255 → serCmd (.data d) = some ([76, UInt8.ofNat d.length] ++ d)) ∧
    (256 ≤ d.length → d.length ≤ 520 → serCmd (.data d) =
        some ([77, UInt8.ofNat (d.length % 256), UInt8.ofNat (d.length / 256)] ++ d)) ∧
    (520 < d.length → serCmd (.data d) = none) :=
  ⟨serCmd_data_small, serCmd_data_mid, serCmd_data_big, serCmd_data_huge⟩

example : serCmd (.data (List.replicate 80 1)) = some ([76, 80] ++ List.replicate 80 1) := by decide
example : serCmd (.data (List.replicate 300 1)) = some ([77, 44, 1] ++ List.replicate 300 1) := by
  decide +kernel
example : serCmd (.data (List.replicate 521 1)) = none := by decide +kernel

theorem op_form (b : Nat) :
    (b < 256 → serCmd (.op b) = some [UInt8.ofNat b]) ∧ (256 ≤ b → serCmd (.op b) = none) :=
  ⟨serCmd_op, serCmd_op_large⟩

theorem serCmd_wire {c : Cmd} {a : Bytes} (hwf : c.WF) (h : serCmd c = some a) : Wire c a := by
  obtain ⟨_, h', hw⟩ := serCmd_wf hwf
  exact Option.some.inj (h'.symm.trans h) ▸ hw

example : (Cmd.data [7]).WF ∧ serCmd (.data [7]) = some [1, 7] := by decide

theorem serialize_total {cs : List Cmd} (hwf : ∀ c ∈ cs, c.WF) : (rawSerialize cs).isSome := by
  obtain ⟨raw, hr, _⟩ := rawSerialize_wf hwf
  rw [hr]; rfl

theorem rawSerialize_length_le {cs : List Cmd} {raw : Bytes} (h : rawSerialize cs = some raw) :
    raw.length ≤ 523 * cs.length :=
  ScriptLemmas.rawSerialize_length_le h

/-- Every script of well-formed commands short enough for its byte length to fit a varint
(fewer than 2^64 / 523 commands) has a length-prefixed serialisation. -/
theorem serialize_isSome {cs : List Cmd} (hwf : ∀ c ∈ cs, c.WF) (hlen : 523 * cs.length < 2 ^ 64) :
    (serialize cs).isSome := by
  obtain ⟨raw, hr, _⟩ := rawSerialize_wf hwf
  have := rawSerialize_length_le hr
  simp [serialize, hr, (encodeVarint_isSome_iff raw.length).mpr (by omega)]

/-- `serialize` is the varint of the raw length followed by the raw bytes, and fails exactly
when `rawSerialize` fails or the raw length does not fit a varint. -/
theorem serialize_eq (cs : List Cmd) :
    (∀ raw, rawSerialize cs = some raw → raw.length < 2 ^ 64 →
      ∃ enc, encodeVarint raw.length = some enc ∧ serialize cs = some (enc ++ raw)) ∧
    (∀ raw, rawSerialize cs = some raw → 2 ^ 64 ≤ raw.length → serialize cs = none) ∧
    (rawSerialize cs = none → serialize cs = none) := by
  refine ⟨fun raw hr hl => ?_, fun raw hr hl => ?_, fun hr => ?_⟩
  · obtain ⟨enc, he⟩ := Option.isSome_iff_exists.mp ((encodeVarint_isSome_iff _).mpr hl)
    exact ⟨enc, he, by simp [serialize, hr, he]⟩
  · simp [serialize, hr, encodeVarint_large hl]
  · simp [serialize, hr]

/-- A script containing a command that `serCmd` refuses (a data element of more than 520 bytes, an
"opcode" above 255) is refused by both serialisers. -/
theorem serialize_refuses {cs : List Cmd} {c : Cmd} (hc : c ∈ cs) (hbad : serCmd c = none) :
    rawSerialize cs = none ∧ serialize cs = none := by
  obtain ⟨s, t, rfl⟩ := List.append_of_mem hc
  have hraw : rawSerialize (s ++ c :: t) = none := by
    rw [rawSerialize_append]
    simp [rawSerialize, hbad]
  exact ⟨hraw, by simp [serialize, hraw]⟩

example : serCmd (.op 256) = none := by decide

theorem serialize_refuses_long {cs : List Cmd} {d : Bytes} (hc : Cmd.data d ∈ cs)
    (hlong : 520 < d.length) : rawSerialize cs = none ∧ serialize cs = none :=
  serialize_refuses hc (serCmd_data_huge hlong)

/-- Round trip: parsing the serialisation of a script of well-formed commands (followed by any
further bytes) returns exactly that script and leaves exactly the further bytes. -/
theorem parse_serialize {cs : List Cmd} (hwf : ∀ c ∈ cs, c.WF) (ser : Bytes)
    (hser : serialize cs = some ser) (rest : Bytes) : parse (ser ++ rest) = some (cs, rest) := by
  obtain ⟨hdr, raw, rfl, hh, hr⟩ := serialize_some hser
  obtain ⟨_, hr', hw⟩ := rawSerialize_wf hwf
  exact parse_wires hh (Option.some.inj (hr'.symm.trans hr) ▸ hw) rest

example : (∀ c ∈ p2pkhScript (List.replicate 20 7), c.WF) ∧
    serialize (p2pkhScript (List.replicate 20 7)) =
      some ([0x19, 0x76, 0xa9, 0x14] ++ List.replicate 20 7 ++ [0x88, 0xac]) := by decide

-- a 300-byte element goes out as PUSHDATA2 behind a 3-byte varint and comes back intact
example : parse ([0xfd, 0x2f, 0x01, 77, 44, 1] ++ List.replicate 300 1) =
    some ([.data (List.replicate 300 1)], []) := by decide +kernel

-- Why `Cmd.WF` restricts opcodes to 0 / 78..255 and data to non-empty: outside it the round
-- trip fails in the Python code as well (these are facts about the library, not model slips).
example : serialize [.op 1, .op 0xac] = some [2, 1, 0xac] ∧
    parse [2, 1, 0xac] = some ([.data [0xac]], []) := by decide
example : serialize [.op 76] = some [1, 76] ∧ parse [1, 76] = none := by decide
example : serialize [.data []] = some [1, 0] ∧ parse [1, 0] = some ([.op 0], []) := by decide

/-- An accepted input contains all the bytes it declares: the varint read at the front is `n`,
and exactly `n` bytes lie between it and the unread rest. -/
theorem parse_accounts {bs rest : Bytes} {cs : List Cmd} (h : parse bs = some (cs, rest)) :
    ∃ n body, readVarint bs = some (n, body ++ rest) ∧ body.length = n := by
  obtain ⟨hdr, body, rfl, hh, _⟩ := parse_some h
  exact ⟨_, body, by rw [List.append_assoc]; exact readVarint_append hh _, rfl⟩

example : parse [2, 1, 7, 9] = some ([.data [7]], [9]) := by decide

/-- Full accounting: an accepted input is a varint header, then a body of exactly the declared
length that is a concatenation of complete wire forms of the returned commands, then the rest. -/
theorem parse_consumes {bs rest : Bytes} {cs : List Cmd} (h : parse bs = some (cs, rest)) :
    ∃ hdr body, bs = hdr ++ body ++ rest ∧ readVarint hdr = some (body.length, []) ∧
      Wires cs body :=
  parse_some h

/-- Exact characterisation of the parser: it accepts precisely header ++ body ++ rest where the
header is a varint of the body length and the body is a concatenation of wire forms. -/
theorem parse_iff (bs rest : Bytes) (cs : List Cmd) :
    parse bs = some (cs, rest) ↔
      ∃ hdr body, bs = hdr ++ body ++ rest ∧ readVarint hdr = some (body.length, []) ∧
        Wires cs body :=
  ⟨parse_some, fun ⟨_, _, e, hh, hw⟩ => e ▸ parse_wires hh hw rest⟩

-- the parser also accepts non-minimal pushes, which `serialize` would write differently
example : parse [3, 76, 1, 7] = some ([.data [7]], []) ∧ serialize [.data [7]] = some [2, 1, 7] := by
  decide

/-- Input that ends early is never accepted: no proper prefix of a serialisation parses.
(Holds for every script that serialises, well-formed or not.) -/
theorem parse_truncated {cs : List Cmd} {ser : Bytes} (hser : serialize cs = some ser)
    (pre : Bytes) (hp : pre <+: ser) (hne : pre ≠ ser) : parse pre = none := by
  obtain ⟨hdr, raw, rfl, hh, _⟩ := serialize_some hser
  exact ScriptLemmas.parse_truncated hh hp hne

example : serialize [.op 0, .data [7, 8]] = some [4, 0, 2, 7, 8] ∧ parse [4, 0, 2, 7] = none ∧
    parse [4, 0, 2] = none ∧ parse [4] = none ∧ parse [] = none := by decide

/-- The same for arbitrary accepted input: if `parse` accepts `bs` leaving `rest`, it rejects every
proper prefix of the consumed part `bs` minus `rest`. -/
theorem parse_truncated_any {used rest : Bytes} {cs : List Cmd}
    (h : parse (used ++ rest) = some (cs, rest)) (pre : Bytes) (hp : pre <+: used)
    (hne : pre ≠ used) : parse pre = none := by
  obtain ⟨hdr, body, hbs, hh, _⟩ := parse_some h
  cases List.append_cancel_right hbs
  exact ScriptLemmas.parse_truncated hh hp hne

example : parse ([3, 76, 1, 7] ++ [9]) = some ([.data [7]], [9]) ∧ parse [3, 76, 1] = none := by decide

/-- The fuel bound in the model's parser loop is never what stops it: any larger bound gives
the same result on every input. -/
theorem parse_fuel_irrelevant (s : Bytes) (extra : Nat) :
    parse s = (readVarint s).bind fun (length, body) =>
      (parseLoop (body.length + 1 + extra) length 0 body).bind fun (cs, count, rest) =>
        if count = length then some (cs, rest) else none := by
  simp only [parse, parseLoop_fuel_irrelevant]

/-- P2PKH: `OP_DUP OP_HASH160 <20 bytes> OP_EQUALVERIFY OP_CHECKSIG`. -/
theorem p2pkh_template {h : Bytes} (hl : h.length = 20) :
    rawSerialize (p2pkhScript h) = some ([0x76, 0xa9, 0x14] ++ h ++ [0x88, 0xac]) := by
  simp [p2pkhScript, rawSerialize, serCmd_op, serCmd_data_small, hl]

/-- P2SH: `OP_HASH160 <20 bytes> OP_EQUAL`. -/
theorem p2sh_template {h : Bytes} (hl : h.length = 20) :
    rawSerialize (p2shScript h) = some ([0xa9, 0x14] ++ h ++ [0x87]) := by
  simp [p2shScript, rawSerialize, serCmd_op, serCmd_data_small, hl]

/-- P2WPKH: `OP_0 <20 bytes>`. -/
theorem p2wpkh_template {h : Bytes} (hl : h.length = 20) :
    rawSerialize (p2wpkhScript h) = some ([0x00, 0x14] ++ h) := by
  simp [p2wpkhScript, rawSerialize, serCmd_op, serCmd_data_small, hl]

/-- P2WSH: `OP_0 <32 bytes>`. -/
theorem p2wsh_template {h : Bytes} (hl : h.length = 32) :
    rawSerialize (p2wshScript h) = some ([0x00, 0x20] ++ h) := by
  simp [p2wshScript, rawSerialize, serCmd_op, serCmd_data_small, hl]

-- a hash of the size `p2wsh_template` asks for
example : (List.replicate 32 (7 : UInt8)).length = 32 := by decide

/-- With the length prefix: the four standard scriptPubKeys serialise to the familiar
25-, 23-, 22- and 34-byte scripts behind a one-byte varint. -/
theorem builders_serialize {h : Bytes} :
    (h.length = 20 → serialize (p2pkhScript h) = some ([0x19, 0x76, 0xa9, 0x14] ++ h ++ [0x88, 0xac])) ∧
    (h.length = 20 → serialize (p2shScript h) = some ([0x17, 0xa9, 0x14] ++ h ++ [0x87])) ∧
    (h.length = 20 → serialize (p2wpkhScript h) = some ([0x16, 0x00, 0x14] ++ h)) ∧
    (h.length = 32 → serialize (p2wshScript h) = some ([0x22, 0x00, 0x20] ++ h)) := by
  refine ⟨fun hl => ?_, fun hl => ?_, fun hl => ?_, fun hl => ?_⟩
  · exact serialize_short (p2pkh_template hl) (by simp [hl]) (by decide)
  · exact serialize_short (p2sh_template hl) (by simp [hl]) (by decide)
  · exact serialize_short (p2wpkh_template hl) (by simp [hl]) (by decide)
  · exact serialize_short (p2wsh_template hl) (by simp [hl]) (by decide)

/-- The four builders produce well-formed scripts for any hash of 1..520 bytes, so these
serialise and round-trip through `parse`. -/
theorem builders_wf {h : Bytes} (hl : 1 ≤ h.length ∧ h.length ≤ 520) :
    (∀ c ∈ p2pkhScript h, c.WF) ∧ (∀ c ∈ p2shScript h, c.WF) ∧
    (∀ c ∈ p2wpkhScript h, c.WF) ∧ (∀ c ∈ p2wshScript h, c.WF) := by
  have hd : (Cmd.data h).WF := hl
  simp only [p2pkhScript, p2shScript, p2wpkhScript, p2wshScript, List.forall_mem_cons, hd]
  decide

end BtcHd.C19
