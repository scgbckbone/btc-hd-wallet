/-
EXTRA — basic laws of the remaining small pieces of the library (`Model/Extra.lean`):
`helper.chunks`, the Merkle helpers, `bech32_decode_address`, `Script.__add__/__eq__/__repr__`,
the `Version` list helpers, the `Bip32Path` predicates and `__eq__`, the `__eq__` methods of
wallets / BIP85 objects / keys, `BIP85DeterministicEntropy.from_xprv`, and the texts written by
`PaperWallet.pprint` / `export_wallet` / `wasabi_json`.

Property theorems and two private steps of theirs; the helper lemmas are in `Lemmas/Extra.lean`.
-/
import BtcHd.Lemmas.Extra
import BtcHd.Lemmas.Script
import BtcHd.Lemmas.Bip39Text
import BtcHd.Lemmas.Wallet
import BtcHd.Lemmas.ToyWallet
import BtcHd.Props.C06Json
import BtcHd.Props.C07
import BtcHd.Props.C11
import BtcHd.Props.C17

namespace BtcHd.ExtraProps
open BtcHd BtcHd.Extra BtcHd.ExtraLemmas

/-! ## `helper.chunks` -/

/-- A step of 0 makes `range` raise: no chunks are produced. -/
theorem chunks_zero {α : Type} (xs : List α) : chunks 0 xs = none := rfl

theorem chunks_isSome_iff {α : Type} (n : Nat) (xs : List α) : (chunks n xs).isSome ↔ 0 < n := by
  simp [Option.isSome_iff_exists, chunks_eq_some_iff]

theorem chunks_join {α : Type} {n : Nat} (hn : 0 < n) (xs : List α) :
    ∃ cs, chunks n xs = some cs ∧ cs.flatten = xs :=
  ⟨chunkList n xs, chunks_pos hn xs, chunkList_flatten hn xs⟩

example : chunks 2 [1, 2, 3, 4, 5] = some [[1, 2], [3, 4], [5]] := by decide

theorem chunks_count {α : Type} {n : Nat} {xs : List α} {cs : List (List α)}
    (h : chunks n xs = some cs) : cs.length = (xs.length + n - 1) / n := by
  obtain ⟨_, rfl⟩ := chunks_eq_some_iff.mp h
  exact chunkList_length n xs

theorem chunks_getElem {α : Type} {n : Nat} {xs : List α} {cs : List (List α)}
    (h : chunks n xs = some cs) (i : Nat) (hi : i < cs.length) :
    cs[i] = (xs.drop (n * i)).take n := by
  obtain ⟨_, rfl⟩ := chunks_eq_some_iff.mp h
  exact chunkList_getElem n xs i hi

/-- Every chunk except possibly the last has exactly `n` elements. -/
theorem chunks_full_length {α : Type} {n : Nat} {xs : List α} {cs : List (List α)}
    (h : chunks n xs = some cs) (i : Nat) (hi : i + 1 < cs.length) :
    (cs[i]'(by omega)).length = n := by
  have := (lt_count_iff (chunks_eq_some_iff.mp h).1).mp (chunks_count h ▸ hi)
  rw [chunks_getElem h i (by omega), List.length_take, List.length_drop]
  rw [Nat.mul_succ] at this
  omega

theorem chunks_length_bounds {α : Type} {n : Nat} {xs : List α} {cs : List (List α)}
    (h : chunks n xs = some cs) : ∀ c ∈ cs, 1 ≤ c.length ∧ c.length ≤ n := by
  intro c hc
  obtain ⟨i, hi, rfl⟩ := List.getElem_of_mem hc
  have hn := (chunks_eq_some_iff.mp h).1
  have := (lt_count_iff hn).mp (chunks_count h ▸ hi)
  rw [chunks_getElem h i hi, List.length_take, List.length_drop]
  omega

theorem chunks_nil {α : Type} {n : Nat} (hn : 0 < n) : chunks n ([] : List α) = some [] := by
  rw [chunks_pos hn, chunkList_nil hn]

theorem chunks_unfold {α : Type} {n : Nat} (hn : 0 < n) {xs : List α} (hx : xs ≠ []) :
    chunks n xs = (chunks n (xs.drop n)).map (xs.take n :: ·) := by
  rw [chunks_pos hn, chunks_pos hn, chunkList_step hn hx]; rfl

/-! ## Merkle helpers -/

theorem merkle_parent_def (h : Bytes → Bytes) (a b : Bytes) : merkleParent h a b = h (a ++ b) := rfl

theorem merkle_parent_level_none_iff (h : Bytes → Bytes) (xs : List Bytes) :
    merkleParentLevel h xs = none ↔ xs.length = 1 := by
  unfold merkleParentLevel
  split <;> simp [*]

/-- The list the loop runs over (the argument after the call) always has even length, so the
`hashes[i + 1]` access never fails. -/
theorem pad_level_spec (xs : List Bytes) :
    (padLevel xs).length % 2 = 0 ∧ (xs.length % 2 = 0 → padLevel xs = xs) ∧
      (xs.length % 2 = 1 → ∃ l, xs.getLast? = some l ∧ padLevel xs = xs ++ [l]) := by
  refine ⟨by rw [padLevel_length]; omega, padLevel_of_even, padLevel_of_odd⟩

theorem merkle_parent_level_length {h : Bytes → Bytes} {xs ys : List Bytes}
    (hx : merkleParentLevel h xs = some ys) :
    ys.length = (xs.length + 1) / 2 ∧ (xs.length % 2 = 0 → ys.length = xs.length / 2) ∧
      (xs.length % 2 = 1 → ys.length = xs.length / 2 + 1) := by
  obtain ⟨_, rfl⟩ := merkleParentLevel_eq_some_iff.mp hx
  rw [level_length]
  omega

theorem merkle_parent_level_getElem {h : Bytes → Bytes} {xs ys : List Bytes}
    (hx : merkleParentLevel h xs = some ys) (i : Nat) (hi : i < ys.length) :
    ∃ (h0 : 2 * i < (padLevel xs).length) (h1 : 2 * i + 1 < (padLevel xs).length),
      ys[i] = h ((padLevel xs)[2 * i] ++ (padLevel xs)[2 * i + 1]) := by
  obtain ⟨_, rfl⟩ := merkleParentLevel_eq_some_iff.mp hx
  have hl := pairUp_length h (padLevel xs)
  exact ⟨by omega, by omega, pairUp_getElem h _ i hi _ _⟩

example : merkleParentLevel id [[1], [2], [3]] = some [[1, 2], [3, 3]] ∧
    merkleParentLevel id [] = some [] ∧ merkleParentLevel id [[1]] = none := by decide

/-- The side effect: after a successful call the caller's list is the padded list. -/
theorem merkle_parent_level_mut {h : Bytes → Bytes} {xs ys arg : List Bytes}
    (hx : merkleParentLevelMut h xs = some (ys, arg)) :
    merkleParentLevel h xs = some ys ∧ arg = padLevel xs ∧ xs <+: arg ∧
      arg.length = xs.length + xs.length % 2 := by
  unfold merkleParentLevelMut at hx
  obtain ⟨r, hr, he⟩ := Option.map_eq_some_iff.mp hx
  cases he
  refine ⟨hr, rfl, ?_, padLevel_length xs⟩
  rcases Nat.mod_two_eq_zero_or_one xs.length with h2 | h2
  · rw [padLevel_of_even h2]
  · obtain ⟨l, _, e⟩ := padLevel_of_odd h2
    rw [e]; exact List.prefix_append _ _

example : merkleParentLevelMut id [[1], [2], [3]] = some ([[1, 2], [3, 3]], [[1], [2], [3], [3]]) := by
  decide

/-- Any fuel of at least the length of the list gives the result `merkle_root` computes: the loop
never runs out of it. -/
theorem merkle_root_fuel_irrelevant (h : Bytes → Bytes) (xs : List Bytes) (fuel : Nat)
    (hf : xs.length ≤ fuel) : merkleRootLoop h fuel xs = merkleRoot h xs := by
  induction hf with
  | refl => rfl
  | step hle ih => rw [merkleRootLoop_stable h hle, ih]

/-- `merkle_root` satisfies the equation of the Python `while` loop. -/
theorem merkle_root_unfold (h : Bytes → Bytes) (xs : List Bytes) :
    merkleRoot h xs =
      if xs.length > 1 then (merkleParentLevel h xs).bind (merkleRoot h) else xs.head? := by
  rw [← merkle_root_fuel_irrelevant h xs (xs.length + 1) (Nat.le_succ _), merkleRootLoop]
  split
  · rw [merkleParentLevel_of_ne h (by omega)]
    exact merkle_root_fuel_irrelevant h _ _ (by rw [level_length]; omega)
  · rfl

private theorem merkle_root_step (h : Bytes → Bytes) {xs : List Bytes} (h1 : xs.length > 1) :
    merkleRoot h xs = merkleRoot h (pairUp h (padLevel xs)) := by
  rw [merkle_root_unfold, if_pos h1, merkleParentLevel_of_ne h (by omega)]
  rfl

/-- The empty list has no root (`current_level[0]` raises `IndexError`). -/
theorem merkle_root_nil (h : Bytes → Bytes) : merkleRoot h [] = none := rfl

theorem merkle_root_single (h : Bytes → Bytes) (x : Bytes) : merkleRoot h [x] = some x := rfl

theorem merkle_root_two (h : Bytes → Bytes) (a b : Bytes) :
    merkleRoot h [a, b] = some (h (a ++ b)) := by
  rw [merkle_root_step h (by simp), padLevel_of_even (by simp)]
  rfl

theorem merkle_root_three (h : Bytes → Bytes) (a b c : Bytes) :
    merkleRoot h [a, b, c] = some (h (h (a ++ b) ++ h (c ++ c))) := by
  rw [merkle_root_step h (by simp), show padLevel [a, b, c] = [a, b, c, c] by simp [padLevel]]
  exact merkle_root_two h _ _

theorem merkle_root_four (h : Bytes → Bytes) (a b c d : Bytes) :
    merkleRoot h [a, b, c, d] = some (h (h (a ++ b) ++ h (c ++ d))) := by
  rw [merkle_root_step h (by simp), padLevel_of_even (by simp)]
  exact merkle_root_two h _ _

theorem merkle_root_isSome_iff (h : Bytes → Bytes) (xs : List Bytes) :
    (merkleRoot h xs).isSome ↔ xs ≠ [] := by
  constructor
  · rintro hs rfl
    cases hs
  · intro hne
    -- by recursion on the length, which one round roughly halves
    by_cases h1 : xs.length > 1
    · rw [merkle_root_step h h1]
      exact (merkle_root_isSome_iff h _).mpr
        (List.ne_nil_of_length_pos (by rw [level_length]; omega))
    · rwa [merkle_root_unfold, if_neg h1, List.isSome_head?]
termination_by xs.length
decreasing_by rw [level_length]; omega

/-- Duplication (the known weakness of Bitcoin's Merkle tree): a list of odd length > 1 has the
same root as the list with its last element repeated. -/
theorem merkle_root_pad (h : Bytes → Bytes) {xs : List Bytes} (h1 : xs.length > 1) :
    merkleRoot h (padLevel xs) = merkleRoot h xs := by
  have hp := padLevel_length xs
  rw [merkle_root_step h h1, merkle_root_step h (by omega), padLevel_of_even (by omega)]

example : merkleRoot id [[1], [2], [3]] = merkleRoot id [[1], [2], [3], [3]] := by decide

example : merkleRoot id [[1], [2], [3], [4], [5]] = some [1, 2, 3, 4, 5, 5, 5, 5] ∧
    merkleRootArg [[1], [2], [3], [4], [5]] = [[1], [2], [3], [4], [5], [5]] := by decide

/-- What `merkle_root` does to the caller's list: nothing for at most one element or an even
length; for an odd length > 1 it leaves the last element appended once more. -/
theorem merkle_root_arg_spec (xs : List Bytes) :
    (xs.length ≤ 1 ∨ xs.length % 2 = 0 → merkleRootArg xs = xs) ∧
      (xs.length > 1 → xs.length % 2 = 1 →
        ∃ l, xs.getLast? = some l ∧ merkleRootArg xs = xs ++ [l]) := by
  unfold merkleRootArg
  constructor
  · rintro (h | h)
    · rw [if_neg (by omega)]
    · split
      · exact padLevel_of_even h
      · rfl
  · intro h1 h2
    rw [if_pos h1]
    exact padLevel_of_odd h2

/-! ## `bech32_decode_address` -/

/-- `bytes(...)` never fails here: the function raises exactly when `bech32.decode` (called with
the first two characters of the address as expected prefix) returns `(None, None)`. -/
theorem bech32_decode_address_none_iff (addr : List Char) :
    bech32DecodeAddress addr = none ↔ Bech32.decode (addr.take 2) addr = none := by
  unfold bech32DecodeAddress
  cases hd : Bech32.decode (addr.take 2) addr with
  | none => simp
  | some r =>
    obtain ⟨data, spec, _, hc, _⟩ := Bech32.decode_eq_some_iff.mp hd
    have hlt := Bech32.convertbits_out_lt (by decide) hc
    simp only [Option.bind_some]
    rw [bytesOfInts_of_lt (fun x hx => by have := hlt x hx; omega)]
    simp

theorem bech32_decode_address_some {addr : List Char} {bs : Bytes}
    (h : bech32DecodeAddress addr = some bs) :
    ∃ v, Bech32.decode (addr.take 2) addr = some (v, bs.map (·.toNat)) ∧ v ≤ 16 ∧
      2 ≤ bs.length ∧ bs.length ≤ 40 := by
  unfold bech32DecodeAddress at h
  obtain ⟨⟨v, prog⟩, hd, hb⟩ := Option.bind_eq_some_iff.mp h
  cases bytesOfInts_eq_some_iff.mp hb
  obtain ⟨data, spec, _, _, h2, h40, h16, _⟩ := Bech32.decode_eq_some_iff.mp hd
  rw [List.length_map] at h2 h40
  exact ⟨v, hd, h16, h2, h40⟩

theorem bech32_decode_address_encode {hrp : List Char} {v : Nat} {prog : Bytes} {s : List Char}
    (hl : hrp.length = 2) (h : Bech32.encode hrp v prog = some s) :
    bech32DecodeAddress s = some prog := by
  have hdec := C11.encode_some_roundtrip h
  obtain ⟨_, hs, -⟩ := Bech32.encode_some_symbols h
  have ht : s.take 2 = hrp := by
    rw [hs, ← hl, List.take_left']
    rfl
  unfold bech32DecodeAddress
  rw [ht, hdec]
  exact bytesOfInts_eq_some_iff.mpr rfl

/-- Every segwit address the wallet prints (`bc1…` / `tb1…`) decodes back to its program. -/
theorem bech32_decode_address_segwit {prog : Bytes} {testnet : Bool} {s : List Char}
    (h : Wallet.segwitOf prog testnet = some s) : bech32DecodeAddress s = some prog := by
  unfold Wallet.segwitOf at h
  refine bech32_decode_address_encode ?_ h
  cases testnet <;> decide

example : ∃ s, Wallet.segwitOf (List.replicate 20 7) true = some s ∧
    bech32DecodeAddress s = some (List.replicate 20 7) := by
  obtain ⟨s, hs, _⟩ := C11.encode_decode (hrp := "tb".toList) (v := 0) (prog := List.replicate 20 7)
    (by decide +kernel)
  have hh : Generated.hrpTest = "tb".toList := by decide +kernel
  have hs' : Wallet.segwitOf (List.replicate 20 7) true = some s := by
    unfold Wallet.segwitOf
    rw [if_pos rfl, hh]
    exact hs
  exact ⟨s, hs', bech32_decode_address_segwit hs'⟩

-- the BIP 173 P2WPKH vector; its (equally valid) upper-case spelling is rejected, because
-- `addr[:2]` is then "BC" while `decode` compares with the lower-cased prefix
example : bech32DecodeAddress "bc1qw508d6qejxtdg4y5r3zarvary0c5xw7kv8f3t4".toList =
    some [0x75, 0x1e, 0x76, 0xe8, 0x19, 0x91, 0x96, 0xd4, 0x54, 0x94, 0x1c, 0x45, 0xd1, 0xb3, 0xa3,
      0x23, 0xf1, 0x43, 0x3b, 0xd6] := by
  rw [String.toList_ofList]
  decide +kernel
example : bech32DecodeAddress "BC1QW508D6QEJXTDG4Y5R3ZARVARY0C5XW7KV8F3T4".toList = none := by
  rw [String.toList_ofList]
  decide +kernel

/-- Every accepted address has a human-readable part of exactly two characters, neither an
upper-case letter: addresses with a longer prefix (`bcrt1…`) are rejected, and so is the
upper-case spelling of an address whose prefix has a letter (`BC1…`, which BIP173 decoders accept). -/
theorem bech32_decode_address_shape {addr : List Char} {bs : Bytes}
    (h : bech32DecodeAddress addr = some bs) :
    9 ≤ addr.length ∧ addr[2]? = some '1' ∧ ∀ c ∈ addr.take 2, Bech32.isUpperAscii c = false := by
  obtain ⟨v, hd, _⟩ := bech32_decode_address_some h
  obtain ⟨hup, dp, hs, h6⟩ := decode_some_shape hd
  have hlen := congrArg List.length hs
  simp only [List.length_map, List.length_append, List.length_cons] at hlen
  have htl : (addr.take 2).length = 2 := by rw [List.length_take]; omega
  refine ⟨by omega, ?_, hup⟩
  have h2 : (addr.map Bech32.toLowerAscii)[2]? = some '1' := by
    rw [hs, List.getElem?_append_right (by omega), htl]; rfl
  rw [List.getElem?_map, Option.map_eq_some_iff] at h2
  obtain ⟨c, hc, h1⟩ := h2
  rw [hc, Bech32.toLowerAscii_eq_one.mp h1]

/-! ## `Script.__add__`, `__eq__`, `__repr__` -/

open Script in
theorem script_add_serialize (a b : List Cmd) :
    rawSerialize (scriptAdd a b) = (rawSerialize a).bind fun x => (rawSerialize b).map (x ++ ·) :=
  ScriptLemmas.rawSerialize_append a b

open Script in
theorem script_add_serialize_some {a b : List Cmd} {x y : Bytes} (ha : rawSerialize a = some x)
    (hb : rawSerialize b = some y) : rawSerialize (scriptAdd a b) = some (x ++ y) := by
  rw [script_add_serialize, ha, hb]; rfl

open Script in
theorem script_add_serialize_none_iff (a b : List Cmd) :
    rawSerialize (scriptAdd a b) = none ↔ rawSerialize a = none ∨ rawSerialize b = none := by
  rw [script_add_serialize]
  cases rawSerialize a <;> cases rawSerialize b <;> simp

example : Script.rawSerialize (scriptAdd (Script.p2wpkhScript [1, 2]) [.op 0x87]) =
    some [0, 2, 1, 2, 0x87] := by decide

theorem script_add_assoc (a b c : List Script.Cmd) :
    scriptAdd (scriptAdd a b) c = scriptAdd a (scriptAdd b c) := List.append_assoc a b c

theorem script_add_nil (a : List Script.Cmd) : scriptAdd [] a = a ∧ scriptAdd a [] = a :=
  ⟨rfl, List.append_nil a⟩

theorem script_eq_iff (a b : List Script.Cmd) : scriptEq a b = true ↔ a = b := by
  simp [scriptEq]

/-- An opcode and a data element are never equal (Python: `0 != b""`, `1 != b"\x01"`). -/
theorem script_eq_op_ne_data (n : Nat) (d : Bytes) : scriptEq [.op n] [.data d] = false := by
  simp [scriptEq]

/-- The table of names behind `Script.__repr__` (which joins the items' names with single spaces): 92 opcodes, each
once, each below 256, every name `OP_…` without a blank. -/
theorem op_code_names_wellformed :
    opCodeNames.length = 92 ∧ (opCodeNames.map (·.1)).Nodup ∧
      ∀ e ∈ opCodeNames, e.1 < 256 ∧ e.2.toList.take 3 = ['O', 'P', '_'] ∧ ' ' ∉ e.2.toList := by
  -- the table is sorted by opcode, so no opcode occurs twice
  have sorted : (opCodeNames.map (·.1)).IsChain (· < ·) := by decide +kernel
  -- the names are read as UTF-8 bytes, which costs the kernel far less than decoding them
  have bytes : ∀ e ∈ opCodeNames, e.1 < 256 ∧ (∀ d ∈ Bip39.utf8Nats e.2, d < 128 ∧ d ≠ 32) ∧
      (Bip39.utf8Nats e.2).take 3 = [79, 80, 95] := by decide +kernel
  refine ⟨rfl, (List.isChain_iff_pairwise.mp sorted).imp Nat.ne_of_lt, fun e he => ?_⟩
  obtain ⟨h1, h2, h3⟩ := bytes e he
  rw [Bip39.toList_of_utf8Nats fun d hd => (h2 d hd).1, ← List.map_take, h3]
  refine ⟨h1, rfl, fun hm => ?_⟩
  obtain ⟨d, hd, hc⟩ := List.mem_map.mp hm
  have := congrArg Char.toNat hc
  rw [Basics.toNat_ofNat_of_lt (by have := (h2 d hd).1; omega)] at this
  exact (h2 d hd).2 this

theorem cmd_repr_named {b : Nat} {name : String} (h : opCodeNames.lookup b = some name) :
    cmdRepr (.op b) = name.toList := by
  have hmem : (b, name) ∈ opCodeNames := by
    obtain ⟨l₁, l₂, e, _⟩ := List.lookup_eq_some_iff.mp h
    rw [e]; simp
  have hne : name.toList ≠ [] := by
    have := (op_code_names_wellformed.2.2 _ hmem).2.1
    intro e; rw [e] at this; cases this
  simp only [cmdRepr, opName?, h, if_neg hne]

theorem cmd_repr_unnamed {b : Nat} (h : opCodeNames.lookup b = none) :
    cmdRepr (.op b) = "OP_[".toList ++ natToDec b ++ [']'] := by
  simp only [cmdRepr, opName?, h]

theorem cmd_repr_data (d : Bytes) : cmdRepr (.data d) = toHex d := rfl

example : cmdRepr (.op 118) = "OP_DUP".toList ∧ cmdRepr (.op 1) = "OP_[1]".toList ∧
    cmdRepr (.op 300) = "OP_[300]".toList ∧ cmdRepr (.data [0xab, 0x01]) = "ab01".toList := by
  repeat rw [String.toList_ofList]
  decide +kernel

theorem script_repr_nil : scriptRepr [] = [] := rfl

theorem script_repr_add {a b : List Script.Cmd} (ha : a ≠ []) (hb : b ≠ []) :
    scriptRepr (scriptAdd a b) = scriptRepr a ++ [' '] ++ scriptRepr b := by
  unfold scriptRepr scriptAdd
  rw [List.map_append]
  exact join_append_of_ne [' '] (by simpa using ha) (by simpa using hb)

example : scriptRepr (scriptAdd [.op 0] [.data [0xab], .op 0x87]) = "OP_0 ab OP_EQUAL".toList := by
  rw [String.toList_ofList]
  decide +kernel

theorem script_repr_p2pkh (h160 : Bytes) :
    scriptRepr (Script.p2pkhScript h160) =
      "OP_DUP OP_HASH160 ".toList ++ toHex h160 ++ " OP_EQUALVERIFY OP_CHECKSIG".toList := by
  simp only [scriptRepr, Script.p2pkhScript, List.map_cons, List.map_nil, join_cons_cons, join_single,
    cmd_repr_data, cmd_repr_named (b := 0x76) (name := "OP_DUP") rfl,
    cmd_repr_named (b := 0xa9) (name := "OP_HASH160") rfl,
    cmd_repr_named (b := 0x88) (name := "OP_EQUALVERIFY") rfl,
    cmd_repr_named (b := 0xac) (name := "OP_CHECKSIG") rfl]
  repeat rw [String.toList_ofList]
  simp only [List.append_assoc, List.cons_append, List.nil_append]

theorem script_repr_p2sh (h160 : Bytes) :
    scriptRepr (Script.p2shScript h160) =
      "OP_HASH160 ".toList ++ toHex h160 ++ " OP_EQUAL".toList := by
  simp only [scriptRepr, Script.p2shScript, List.map_cons, List.map_nil, join_cons_cons, join_single,
    cmd_repr_data, cmd_repr_named (b := 0xa9) (name := "OP_HASH160") rfl,
    cmd_repr_named (b := 0x87) (name := "OP_EQUAL") rfl]
  repeat rw [String.toList_ofList]
  simp only [List.append_assoc, List.cons_append, List.nil_append]

theorem script_repr_segwit (prog : Bytes) :
    scriptRepr (Script.p2wpkhScript prog) = "OP_0 ".toList ++ toHex prog ∧
      scriptRepr (Script.p2wshScript prog) = "OP_0 ".toList ++ toHex prog := by
  simp only [scriptRepr, Script.p2wpkhScript, Script.p2wshScript, List.map_cons, List.map_nil,
    join_cons_cons, join_single, cmd_repr_data, cmd_repr_named (b := 0) (name := "OP_0") rfl]
  repeat rw [String.toList_ofList]
  simp only [List.cons_append, List.nil_append, and_self]

example : scriptRepr (Script.p2pkhScript [0xab, 0xcd]) =
    "OP_DUP OP_HASH160 abcd OP_EQUALVERIFY OP_CHECKSIG".toList := by
  rw [String.toList_ofList]
  decide +kernel

/-! ## `Version` helper lists -/

/-- Every `(key type, bip)` entry the helper dictionaries read exists in both network tables. -/
theorem tables_complete :
    ∀ k ∈ [0, 1], ∀ b ∈ [0, 1, 2], (Path.lookup Generated.versionsMain k b).isSome ∧
      (Path.lookup Generated.versionsTest k b).isSome := by decide

/-- The four lists, spelled out (SLIP-132 values, in the order Python returns them). -/
theorem version_lists_values :
    mainnetVersions = [0x0488B21E, 0x049d7cb2, 0x04b24746, 0x0488ADE4, 0x049d7878, 0x04b2430c] ∧
    testnetVersions = [0x043587CF, 0x044a5262, 0x045f1cf6, 0x04358394, 0x044a4e28, 0x045f18bc] ∧
    prvVersions = [0x04358394, 0x044a4e28, 0x045f18bc, 0x0488ADE4, 0x049d7878, 0x04b2430c] ∧
    pubVersions = [0x043587CF, 0x044a5262, 0x045f1cf6, 0x0488B21E, 0x049d7cb2, 0x04b24746] := by
  decide

/-- `testnet_versions() + mainnet_versions()` is the list `valid_version` searches: twelve
distinct versions. -/
theorem all_versions :
    testnetVersions ++ mainnetVersions = Path.allVersions ∧
      (testnetVersions ++ mainnetVersions).length = 12 ∧
      (testnetVersions ++ mainnetVersions).Nodup := by
  refine ⟨rfl, by decide, by decide⟩

theorem valid_version_iff (v : Nat) :
    Path.validVersion v = true ↔ v ∈ testnetVersions ++ mainnetVersions := by
  rw [all_versions.1]
  unfold Path.validVersion
  exact decide_eq_true_iff

theorem network_partition :
    testnetVersions.length = 6 ∧ mainnetVersions.length = 6 ∧
      ∀ v ∈ testnetVersions, v ∉ mainnetVersions := by decide

theorem key_partition :
    (prvVersions ++ pubVersions).Perm (testnetVersions ++ mainnetVersions) ∧
      prvVersions.length = 6 ∧ pubVersions.length = 6 ∧ ∀ v ∈ prvVersions, v ∉ pubVersions := by
  decide

theorem key_versions_spec (k : Nat) :
    keyVersions k =
      if k = 0 then some prvVersions else if k = 1 then some pubVersions else none := by
  unfold keyVersions prvVersions pubVersions
  by_cases h0 : k = 0
  · subst h0; rfl
  · by_cases h1 : k = 1
    · subst h1; rfl
    · rw [if_neg (by omega), if_neg h0, if_neg h1]

/-- The keys of the three `bipNN_data()` dictionaries, in dict order. -/
theorem bip_data_names :
    bip44Data.map (·.1) = ["xprv", "xpub", "tprv", "tpub"].map String.toList ∧
    bip49Data.map (·.1) = ["yprv", "ypub", "uprv", "upub"].map String.toList ∧
    bip84Data.map (·.1) = ["zprv", "zpub", "vprv", "vpub"].map String.toList := by
  decide +kernel

/-- The values of the three `bipNN_data()` dictionaries, in dict order. -/
theorem bip_data_values :
    bip44Data.map (·.2) = [0x0488ADE4, 0x0488B21E, 0x04358394, 0x043587CF] ∧
    bip49Data.map (·.2) = [0x049d7878, 0x049d7cb2, 0x044a4e28, 0x044a5262] ∧
    bip84Data.map (·.2) = [0x04b2430c, 0x04b24746, 0x045f18bc, 0x045f1cf6] := by
  decide +kernel

theorem bip_partition :
    ((bip44Data ++ bip49Data ++ bip84Data).map (·.2)).Perm (testnetVersions ++ mainnetVersions) ∧
      (∀ v ∈ bip44Data.map (·.2), v ∉ bip49Data.map (·.2) ∧ v ∉ bip84Data.map (·.2)) ∧
      (∀ v ∈ bip49Data.map (·.2), v ∉ bip84Data.map (·.2)) := by
  decide +kernel

/-- `Version.parse` expressed with the helper lists, exactly as the Python computes it. -/
theorem version_parse_eq (v : Nat) :
    Path.Version.parse v =
      if v ∈ testnetVersions ++ mainnetVersions then
        some ⟨if v ∈ prvVersions then 0 else 1,
              if v ∈ bip44Data.map (·.2) then 0 else if v ∈ bip49Data.map (·.2) then 1
              else if v ∈ bip84Data.map (·.2) then 2 else 0,
              decide (v ∈ testnetVersions)⟩
      else none := by
  by_cases hv : v ∈ testnetVersions ++ mainnetVersions
  · -- the twelve entries of the table
    revert v
    decide +kernel
  · rw [if_neg hv]
    exact C07.version_parse_none v (Bool.eq_false_iff.mpr fun hvv => hv ((valid_version_iff v).mp hvv))

/-! ## `Bip32Path` predicates and `__eq__` -/

/-- `Bip32Path.bip()` computed through the `bip44` / `bip49` / `bip84` predicates is the model's
`bipOf`. -/
theorem path_bip_eq (p : Path.Path) : pathBip p = Path.bipOf p := by
  obtain ⟨levels, priv⟩ := p
  cases levels with
  | nil => rfl
  | cons x xs =>
    simp only [pathBip, bip44, bip49, bip84, purpose, Path.bipOf, List.getElem?_cons_zero,
      List.head?_cons, beq_iff_eq, Option.some.injEq]

theorem path_predicates_exclusive (p : Path.Path) :
    ¬ (bitcoinTestnet p = true ∧ bitcoinMainnet p = true) ∧
      ¬ (bip44 p = true ∧ bip49 p = true) ∧ ¬ (bip44 p = true ∧ bip84 p = true) ∧
      ¬ (bip49 p = true ∧ bip84 p = true) := by
  simp only [bitcoinTestnet, bitcoinMainnet, bip44, bip49, bip84, beq_iff_eq]
  refine ⟨?_, ?_, ?_, ?_⟩ <;>
  · rintro ⟨h1, h2⟩
    rw [h1] at h2
    revert h2
    decide

/-- A missing level (Python `None`) makes every predicate false. -/
theorem path_predicates_spec (p : Path.Path) :
    (bip44 p = true ↔ p.levels[0]? = some 2147483692) ∧
    (bip49 p = true ↔ p.levels[0]? = some 2147483697) ∧
    (bip84 p = true ↔ p.levels[0]? = some 2147483732) ∧
    (bitcoinMainnet p = true ↔ p.levels[1]? = some 2147483648) ∧
    (bitcoinTestnet p = true ↔ p.levels[1]? = some 2147483649) ∧
    (externalChain p = true ↔ p.levels[3]? = some 0) := by
  simp [bitcoinTestnet, bitcoinMainnet, bip44, bip49, bip84, externalChain, purpose, coinType, chain]

example : (Path.parse "m/84'/1'/0'/0/5".toList).map (fun p =>
      ([bip84 p, bip44 p, bip49 p, bitcoinTestnet p, bitcoinMainnet p, externalChain p], pathBip p)) =
    some ([true, false, false, true, false, true], 2) := by
  rw [String.toList_ofList]
  decide +kernel
example : (Path.parse "M/44'/0'".toList).map (fun p =>
      ([bip44 p, bitcoinTestnet p, bitcoinMainnet p, externalChain p], pathBip p)) =
    some ([true, false, true, false], 0) := by
  rw [String.toList_ofList]
  decide +kernel

/-- `Bip32Path.__eq__` on path objects (at most five levels, as `parse` and the constructor
guarantee) holds exactly for identical paths: same mark, same levels. -/
theorem path_eq_iff {a b : Path.Path} (ha : a.levels.length ≤ 5) (hb : b.levels.length ≤ 5) :
    pathEq a b = true ↔ a = b := by
  constructor
  · intro h
    simp only [pathEq, Bool.and_eq_true, beq_iff_eq] at h
    obtain ⟨⟨⟨⟨⟨hm, h0⟩, h1⟩, h2⟩, h3⟩, h4⟩ := h
    have hl := ext_of_getElem?_lt ha hb fun i hi => by
      obtain rfl | rfl | rfl | rfl | rfl : i = 0 ∨ i = 1 ∨ i = 2 ∨ i = 3 ∨ i = 4 := by omega
      all_goals assumption
    obtain ⟨la, pa⟩ := a
    obtain ⟨lb, pb⟩ := b
    subst hl
    have hp : pa = pb := by
      cases pa <;> cases pb <;> simp [pathMark] at hm ⊢
    rw [hp]
  · rintro rfl
    simp [pathEq]

theorem path_eq_parsed {s t : List Char} {a b : Path.Path} (ha : Path.parse s = some a)
    (hb : Path.parse t = some b) : pathEq a b = true ↔ a = b :=
  path_eq_iff (C17.parse_levels_bound ha).1 (C17.parse_levels_bound hb).1

example : (Path.parse "m/44h/0h".toList).bind (fun a => (Path.parse "m/44'/0'/".toList).map
    (fun b => pathEq a b)) = some true := by
  repeat rw [String.toList_ofList]
  decide +kernel
example : (Path.parse "m/44'/0'".toList).bind (fun a => (Path.parse "M/44'/0'".toList).map
    (fun b => pathEq a b)) = some false := by
  repeat rw [String.toList_ofList]
  decide +kernel

theorem is_hardened_private (num : Nat) (sign : List Char) :
    (isHardened num = true ↔ 2147483648 ≤ num) ∧ (isPrivate sign = true ↔ sign = ['m']) := by
  simp [isHardened, isPrivate]

theorem list_get_spec {α : Type} (xs : List α) (i : Nat) :
    (∀ h : i < xs.length, listGet xs i = some xs[i]) ∧ (xs.length ≤ i → listGet xs i = none) := by
  unfold listGet
  exact ⟨fun h => List.getElem?_eq_getElem h, fun h => List.getElem?_eq_none h⟩

/-! ## `__eq__` of wallets, BIP85 objects and keys; `from_xprv` -/

/-- `BaseWallet.__eq__`: equal master nodes (as `PubKeyNode.__eq__` compares them) and equal
network flags — nothing else (mnemonic and password are not compared). -/
theorem wallet_eq_iff (a b : Wallet.Wallet) :
    walletEq a b = true ↔ Bip32.nodeEq a.master b.master = true ∧ a.testnet = b.testnet := by
  simp [walletEq]

theorem wallet_eq_equivalence :
    (∀ a, walletEq a a = true) ∧ (∀ a b, walletEq a b = true → walletEq b a = true) ∧
      (∀ a b c, walletEq a b = true → walletEq b c = true → walletEq a c = true) :=
  equivalence_of_key (fun w => (nodeKey w.master, w.testnet)) fun a b => by
    rw [wallet_eq_iff, nodeEq_iff]; exact Iff.of_eq (Prod.mk.injEq ..).symm

theorem wallet_eq_ignores_secrets (w : Wallet.Wallet) (m p : Option (List Char)) :
    walletEq w { w with mnemonic := m, password := p } = true :=
  (wallet_eq_iff _ _).mpr ⟨(nodeEq_iff _ _).mpr rfl, rfl⟩

theorem bip85_eq_iff (a b : Bip85Obj) :
    bip85Eq a b = true ↔ Bip32.nodeEq a.masterNode b.masterNode = true ∧ a.testnet = b.testnet := by
  simp [bip85Eq]

theorem bip85_eq_equivalence :
    (∀ a, bip85Eq a a = true) ∧ (∀ a b, bip85Eq a b = true → bip85Eq b a = true) ∧
      (∀ a b c, bip85Eq a b = true → bip85Eq b c = true → bip85Eq a c = true) :=
  equivalence_of_key (fun o => (nodeKey o.masterNode, o.testnet)) fun a b => by
    rw [bip85_eq_iff, nodeEq_iff]; exact Iff.of_eq (Prod.mk.injEq ..).symm

/-- `from_xprv` succeeds exactly when the string passes the Base58Check decoding; the object
holds the parsed node, built as a private node with the given network flag, and that flag. -/
theorem bip85_from_xprv_spec {Pt : Type} (P : Prims Pt) (xprv : List Char) (testnet : Bool) :
    ((bip85FromXprv P xprv testnet).isSome ↔ (Base58.decodeCheck P.hash256 xprv).isSome) ∧
      ∀ o, bip85FromXprv P xprv testnet = some o →
        Bip32.parseStr P true testnet xprv = some o.masterNode ∧ o.testnet = testnet ∧
        o.masterNode.isPrv = true ∧ o.masterNode.testnet = testnet := by
  unfold bip85FromXprv Bip32.parseStr
  constructor
  · cases Base58.decodeCheck P.hash256 xprv <;> simp
  · intro o ho
    cases hd : Base58.decodeCheck P.hash256 xprv with
    | none => rw [hd] at ho; cases ho
    | some bs =>
      rw [hd] at ho
      cases ho
      exact ⟨rfl, rfl, rfl, rfl⟩

/-- Round trip: the extended private key of a well-formed, BIP32-valid private node, fed to
`from_xprv` with the node's network flag, gives an object equal (`__eq__`) to the one built
directly from the node. -/
theorem bip85_from_xprv_roundtrip {Pt : Type} {P : Prims Pt} {nd : Bip32.Node}
    (hC : CurveLaws P.curve) (hlen : ∀ x, 4 ≤ (P.hash256 x).length) (hwf : Bip32.Node.WF P nd)
    (hvalid : Bip32.BIP32valid nd) (version : Option Nat) (s : List Char)
    (hs : Bip32.extendedPrivateKey P nd version = some s) :
    ∃ o, bip85FromXprv P s nd.testnet = some o ∧ bip85Eq o ⟨nd, nd.testnet⟩ = true := by
  obtain ⟨nd', hp, heq, _⟩ := C07.xprv_roundtrip hC hlen hwf hvalid version s hs
  refine ⟨⟨nd', nd.testnet⟩, ?_, (bip85_eq_iff _ _).mpr ⟨heq, rfl⟩⟩
  unfold bip85FromXprv
  rw [hp]; rfl

example : ∃ (P : Prims Nat) (nd : Bip32.Node) (s : List Char), CurveLaws P.curve ∧
    (∀ x, 4 ≤ (P.hash256 x).length) ∧ Bip32.Node.WF P nd ∧ Bip32.BIP32valid nd ∧
    Bip32.extendedPrivateKey P nd none = some s := by
  obtain ⟨ser, h, _⟩ := C07.serialize_length_private (P := Toy.prims) Toy.laws Toy.prvNode_wf rfl
    none (XKey.prvVersion_lt _)
  exact ⟨Toy.prims, Toy.prvNode, _, Toy.laws, Toy.hash256_len,
    Toy.prvNode_wf, Toy.prvNode_valid, by unfold Bip32.extendedPrivateKey; rw [h]; rfl⟩

/-- `PrivateKey.__eq__` on keys below 2^256 (every key the constructor accepts) is equality of the
secret exponents. -/
theorem priv_key_eq_iff {k1 k2 : Nat} (h1 : k1 < 2 ^ 256) (h2 : k2 < 2 ^ 256) :
    privKeyEq k1 k2 = true ↔ k1 = k2 := by
  unfold privKeyEq Keys.privBytes
  rw [decide_eq_true_iff]
  constructor
  · intro h
    have := congrArg beToNat h
    rwa [BeFixed.beToNat_beFixed (by omega), BeFixed.beToNat_beFixed (by omega)] at this
  · rintro rfl; rfl

theorem priv_key_eq_bytes {Pt : Type} {C : Curve Pt} {b1 b2 : Bytes} {k1 k2 : Nat}
    (h1 : Keys.mkPriv C b1 = some k1) (h2 : Keys.mkPriv C b2 = some k2) :
    privKeyEq k1 k2 = true ↔ b1 = b2 := by
  obtain ⟨l1, _, _, e1⟩ := Bip32.mkPriv_eq_some.mp h1
  obtain ⟨l2, _, _, e2⟩ := Bip32.mkPriv_eq_some.mp h2
  unfold privKeyEq Keys.privBytes
  rw [decide_eq_true_iff, e1, e2, BeFixed.beFixed_beToNat l1, BeFixed.beFixed_beToNat l2]

example : Keys.mkPriv Toy.curve (beFixed 32 3) = some 3 := by decide +kernel

theorem pub_key_eq_iff {Pt : Type} (C : Curve Pt) (p q : Pt) :
    (pubKeyEq C p q = true ↔ C.sec true p = C.sec true q) ∧
      ((∀ x y, C.sec true x = C.sec true y → x = y) → (pubKeyEq C p q = true ↔ p = q)) := by
  unfold pubKeyEq
  rw [decide_eq_true_iff]
  refine ⟨Iff.rfl, fun hinj => ⟨hinj p q, fun e => by rw [e]⟩⟩

/-! ## The texts of `json` / `pprint` / `export_wallet` / `wasabi_json` -/

/-- A generated report is a non-empty dict, hence truthy. -/
private theorem generate_truthy {Pt : Type} {P : Prims Pt} {w : Wallet.Wallet} {acct a b : Nat}
    {j : Wallet.Json} (h : Wallet.generate P w acct a b = some j) : truthy j = true := by
  obtain ⟨_, _, _, _, _, _, _, _, rfl⟩ := Wallet.generate_eq_some.mp h
  rfl

/-- `data if data else self.generate()` always yields a truthy value, so evaluating it a second
time (as `pprint` → `json` does) changes nothing. -/
theorem data_or_generate_idem {Pt : Type} (P : Prims Pt) (w : Wallet.Wallet)
    (data : Option Wallet.Json) {j : Wallet.Json} (h : dataOrGenerate P w data = some j) :
    truthy j = true ∧ dataOrGenerate P w (some j) = some j := by
  have ht : truthy j = true := by
    unfold dataOrGenerate at h
    split at h
    · split at h
      · cases h; assumption
      · exact generate_truthy h
    · exact generate_truthy h
  refine ⟨ht, ?_⟩
  simp only [dataOrGenerate, ht, if_true]

example {Pt : Type} (P : Prims Pt) (w : Wallet.Wallet) :
    dataOrGenerate P w (some (.arr [.null])) = some (.arr [.null]) := rfl

/-- A falsy `data` argument (`None`, `{}`, `[]`, `""`) is replaced by the default report
(account 0, addresses 0..19); a truthy one is used as it is. -/
theorem data_or_generate_spec {Pt : Type} (P : Prims Pt) (w : Wallet.Wallet) :
    dataOrGenerate P w none = Wallet.generate P w 0 0 20 ∧
    (∀ j, truthy j = false → dataOrGenerate P w (some j) = Wallet.generate P w 0 0 20) ∧
    (∀ j, truthy j = true → dataOrGenerate P w (some j) = some j) := by
  refine ⟨rfl, fun j hj => ?_, fun j hj => ?_⟩ <;> simp [dataOrGenerate, hj]

example : truthy (.obj []) = false ∧ truthy .null = false ∧ truthy (.arr []) = false ∧
    truthy (.str []) = false ∧ truthy (.obj [([], .null)]) = true := by decide

/-- What `export_wallet` writes to the file is exactly the `json()` text (no trailing newline). -/
theorem export_wallet_text_eq {Pt : Type} (P : Prims Pt) (w : Wallet.Wallet)
    (data : Option Wallet.Json) (indent : Option Nat) :
    exportWalletText P w data indent = jsonText P w data indent := by
  unfold exportWalletText jsonText
  cases hd : dataOrGenerate P w data with
  | none => rfl
  | some j => simp only [Option.bind_some, (data_or_generate_idem P w data hd).2, Option.map_some]

/-- What `pprint` writes is the `json()` text followed by one newline. -/
theorem pprint_text_eq {Pt : Type} (P : Prims Pt) (w : Wallet.Wallet) (data : Option Wallet.Json)
    (indent : Option Nat) :
    pprintText P w data indent = (jsonText P w data indent).map (· ++ ['\n']) := by
  rw [← export_wallet_text_eq, exportWalletText, Option.map_bind]
  rfl

theorem pprint_text_of_data {Pt : Type} (P : Prims Pt) (w : Wallet.Wallet) {j : Wallet.Json}
    (hj : truthy j = true) (indent : Option Nat) :
    pprintText P w (some j) indent = some (JsonText.dumps indent j ++ ['\n']) := by
  rw [pprint_text_eq]
  simp [jsonText, dataOrGenerate, hj]

example {Pt : Type} (P : Prims Pt) (w : Wallet.Wallet) :
    pprintText P w (some (.obj [("a".toList, .null)])) (some 4) =
      some "{\n    \"a\": null\n}\n".toList := by
  rw [pprint_text_of_data P w (by decide)]
  repeat rw [String.toList_ofList]
  decide +kernel

/-- Whatever `pprint` writes ends with a newline and parses back (`json.loads`) to the data that
was printed. -/
theorem pprint_text_loads {Pt : Type} {P : Prims Pt} {w : Wallet.Wallet}
    {data : Option Wallet.Json} {indent : Option Nat} {t : List Char}
    (h : pprintText P w data indent = some t) :
    t.getLast? = some '\n' ∧ ∃ j, dataOrGenerate P w data = some j ∧ JsonText.loads t = some j := by
  rw [pprint_text_eq, jsonText, Option.map_map] at h
  obtain ⟨j, hd, rfl⟩ := Option.map_eq_some_iff.mp h
  exact ⟨by simp, j, hd, by
    simpa using C06.loads_dumps_padded j indent [] ['\n'] (by simp) (by simp)⟩

theorem export_wallet_text_loads {Pt : Type} {P : Prims Pt} {w : Wallet.Wallet}
    {data : Option Wallet.Json} {indent : Option Nat} {t : List Char}
    (h : exportWalletText P w data indent = some t) :
    ∃ j, dataOrGenerate P w data = some j ∧ JsonText.loads t = some j := by
  rw [export_wallet_text_eq, jsonText] at h
  obtain ⟨j, hd, rfl⟩ := Option.map_eq_some_iff.mp h
  exact ⟨j, hd, C06.loads_dumps j indent⟩

example {Pt : Type} (P : Prims Pt) (w : Wallet.Wallet) :
    exportWalletText P w (some (.arr [.null])) none = some "[null]".toList := by
  have h : dataOrGenerate P w (some (.arr [.null])) = some (.arr [.null]) := rfl
  rw [export_wallet_text_eq, jsonText, h, String.toList_ofList]
  decide +kernel

/-- A watch-only wallet cannot print or export its default report (the hardened account derivation of `bip44`
raises, before the BIP85 section is reached). -/
theorem pprint_text_watch_only {Pt : Type} (P : Prims Pt) {w : Wallet.Wallet}
    (hw : w.master.isPrv = false) (indent : Option Nat) :
    pprintText P w none indent = none ∧ exportWalletText P w none indent = none := by
  rw [pprint_text_eq, export_wallet_text_eq]
  simp [jsonText, dataOrGenerate, Wallet.generate_of_watchOnly P hw]

-- a wallet that meets the hypothesis of `pprint_text_watch_only`
example : (⟨Toy.pubNode, true, none, none⟩ : Wallet.Wallet).master.isPrv = false := rfl

/-- `wasabi_json` is `json.dumps` of the Wasabi dict (which is never falsy, so the
`data if data else generate()` detour in `json()` is not taken). -/
theorem wasabi_json_text_eq {Pt : Type} (P : Prims Pt) (w : Wallet.Wallet) (indent : Option Nat) :
    wasabiJsonText P w indent = (Wallet.wasabi P w).map (JsonText.dumps indent) := by
  unfold wasabiJsonText
  cases hw : Wallet.wasabi P w with
  | none => rfl
  | some j =>
    have ht : truthy j = true := by
      simp only [Wallet.wasabi, Option.bind_eq_some_iff, Option.map_eq_some_iff] at hw
      obtain ⟨_, _, _, _, _, _, rfl⟩ := hw
      rfl
    simp [jsonText, dataOrGenerate, ht]

example : (wasabiJsonText Toy.primsW (Toy.walletW true) none).isSome = true := by
  rw [wasabi_json_text_eq, Option.isSome_map]
  exact Toy.wasabi_toy true

end BtcHd.ExtraProps
