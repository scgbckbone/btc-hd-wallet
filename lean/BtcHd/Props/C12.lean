/-
C12 — BIP85 deterministic entropy.

"For every master extended private key, every index in [0, 2^31) and every allowed
application parameter, the derived mnemonic (12/15/18/21/24 words), WIF, extended private
key, hex string (16-64 bytes) and Base64 password (20-86 characters) are what BIP85 defines:
HMAC-SHA512 keyed "bip-entropy-from-k" over the private key at the application's fully
hardened path, truncated or split as that application prescribes.  Parameters or indexes
outside the allowed sets are rejected rather than mapped onto some other path, and distinct
(application, parameter, index) triples use distinct paths."

The model is `Model/Bip85.lean` (mirror of `bip85.py`); HMAC-SHA512, SHA-256 and the curve are parameters
(`P : Prims Pt`), so every statement holds for every primitive instance.  Python `int` arguments are `Int`;
`none` = "raised".  `entropyAt` and the level lists `levelsMnemonic` … `levelsPwd` are defined in
`Lemmas/Bip85.lean`; `App`, `levels`, `Allowed` at the end of this file are the vocabulary of the injectivity statement.
-/
import BtcHd.Lemmas.Bip85
import BtcHd.Lemmas.ToyBip85
import BtcHd.Props.C04

namespace BtcHd.C12
open BtcHd Bip85 Bip32 Keys Path Text

variable {Pt : Type}

/-- the key that `bip85.py` passes to HMAC-SHA512 is the one BIP85 prescribes -/
theorem hmac_key : Generated.bip85Key = Text.utf8 "bip-entropy-from-k".toList := by
  rw [String.toList_ofList]; decide +kernel

/-- the five path templates of the source are the BIP85 ones: root 83696968', applications
39' (BIP39, language 0'), 2' (WIF), 32' (XPRV), 128169' (HEX), 707764' (PWD BASE64) -/
theorem templates :
    Generated.bip85TplMnemonic = "m/83696968'/39'/0'/{}'/{}'".toList ∧
    Generated.bip85TplWif = "m/83696968'/2'/{}'".toList ∧
    Generated.bip85TplXprv = "m/83696968'/32'/{}'".toList ∧
    Generated.bip85TplHex = "m/83696968'/128169'/{}'/{}'".toList ∧
    Generated.bip85TplPwd = "m/83696968'/707764'/{}'/{}'".toList := by
  repeat rw [String.toList_ofList]
  decide +kernel

/-- the parameter bounds of the source: 16..64 bytes of hex, 20..86 password characters,
word counts 12/15/18/21/24 -/
theorem bounds : Generated.bip85HexBounds = (16, 64) ∧ Generated.bip85PwdBounds = (20, 86) ∧
    Generated.correctMnemonicLength = [12, 15, 18, 21, 24] := by decide

/-- `str(i)`: decimal digits for `i ≥ 0`, a minus sign followed by the digits of `-i` otherwise -/
theorem intToDec_spec (a : Int) :
    (0 ≤ a → intToDec a = natToDec a.toNat) ∧
    (a < 0 → intToDec a = '-' :: natToDec (-a).toNat) := by
  refine ⟨fun h => ?_, fun h => ?_⟩
  · obtain ⟨n, rfl⟩ := Int.eq_ofNat_of_zero_le h
    rfl
  · obtain ⟨n, rfl, e⟩ := intToDec_neg h
    rw [e, Int.neg_neg, Int.toNat_natCast]

/-- the templates rendered with `str.format`: BIP39, then WIF, XPRV, HEX, PWD -/
theorem fmt_mnemonic (a b : Int) : fmt Generated.bip85TplMnemonic [a, b] =
    "m/83696968'/39'/0'/".toList ++ intToDec a ++ "'/".toList ++ intToDec b ++ "'".toList := by
  rw [tplMnemonic_eq]; repeat rw [String.toList_ofList]
  exact (fmt_template (by decide) [a, b]).trans (by simp [join])

theorem fmt_wif (a : Int) : fmt Generated.bip85TplWif [a] =
    "m/83696968'/2'/".toList ++ intToDec a ++ "'".toList := by
  rw [tplWif_eq]; repeat rw [String.toList_ofList]
  exact (fmt_template (by decide) [a]).trans (by simp [join])

theorem fmt_xprv (a : Int) : fmt Generated.bip85TplXprv [a] =
    "m/83696968'/32'/".toList ++ intToDec a ++ "'".toList := by
  rw [tplXprv_eq]; repeat rw [String.toList_ofList]
  exact (fmt_template (by decide) [a]).trans (by simp [join])

theorem fmt_hex (a b : Int) : fmt Generated.bip85TplHex [a, b] =
    "m/83696968'/128169'/".toList ++ intToDec a ++ "'/".toList ++ intToDec b ++ "'".toList := by
  rw [tplHex_eq]; repeat rw [String.toList_ofList]
  exact (fmt_template (by decide) [a, b]).trans (by simp [join])

theorem fmt_pwd (a b : Int) : fmt Generated.bip85TplPwd [a, b] =
    "m/83696968'/707764'/".toList ++ intToDec a ++ "'/".toList ++ intToDec b ++ "'".toList := by
  rw [tplPwd_eq]; repeat rw [String.toList_ofList]
  exact (fmt_template (by decide) [a, b]).trans (by simp [join])

example : fmt Generated.bip85TplMnemonic [24, 0] = "m/83696968'/39'/0'/24'/0'".toList := by
  rw [String.toList_ofList]; decide +kernel
example : fmt Generated.bip85TplWif [-1] = "m/83696968'/2'/-1'".toList := by
  rw [String.toList_ofList]; decide +kernel

/-- `Bip32Path.parse` accepts a rendered path iff every argument is in `[0, 2^31)`, and then returns the levels of the
template, all hardened: BIP39, then WIF, XPRV, HEX, PWD -/
theorem parse_mnemonic (a b : Int) :
    Path.parse (fmt Generated.bip85TplMnemonic [a, b]) =
      if (0 ≤ a ∧ a < 2 ^ 31) ∧ (0 ≤ b ∧ b < 2 ^ 31) then
        some ⟨[83696968 + 2 ^ 31, 39 + 2 ^ 31, 0 + 2 ^ 31, a.toNat + 2 ^ 31, b.toNat + 2 ^ 31], true⟩
      else none :=
  parse_fmt_mnemonic a b

theorem parse_wif (a : Int) :
    Path.parse (fmt Generated.bip85TplWif [a]) =
      if 0 ≤ a ∧ a < 2 ^ 31 then some ⟨[83696968 + 2 ^ 31, 2 + 2 ^ 31, a.toNat + 2 ^ 31], true⟩
      else none :=
  parse_fmt_wif a

theorem parse_xprv (a : Int) :
    Path.parse (fmt Generated.bip85TplXprv [a]) =
      if 0 ≤ a ∧ a < 2 ^ 31 then some ⟨[83696968 + 2 ^ 31, 32 + 2 ^ 31, a.toNat + 2 ^ 31], true⟩
      else none :=
  parse_fmt_xprv a

theorem parse_hex (a b : Int) :
    Path.parse (fmt Generated.bip85TplHex [a, b]) =
      if (0 ≤ a ∧ a < 2 ^ 31) ∧ (0 ≤ b ∧ b < 2 ^ 31) then
        some ⟨[83696968 + 2 ^ 31, 128169 + 2 ^ 31, a.toNat + 2 ^ 31, b.toNat + 2 ^ 31], true⟩
      else none :=
  parse_fmt_hex a b

theorem parse_pwd (a b : Int) :
    Path.parse (fmt Generated.bip85TplPwd [a, b]) =
      if (0 ≤ a ∧ a < 2 ^ 31) ∧ (0 ≤ b ∧ b < 2 ^ 31) then
        some ⟨[83696968 + 2 ^ 31, 707764 + 2 ^ 31, a.toNat + 2 ^ 31, b.toNat + 2 ^ 31], true⟩
      else none :=
  parse_fmt_pwd a b

/-- every level of every application path is hardened (≥ 2^31) and fits in 32 bits when the
parameters are below 2^31 -/
theorem bip85_path_hardened (p i : Nat) (hp : p < 2 ^ 31) (hi : i < 2 ^ 31) :
    ∀ lv ∈ [levelsMnemonic p i, levelsWif i, levelsXprv i, levelsHex p i, levelsPwd p i],
      ∀ l ∈ lv, 2 ^ 31 ≤ l ∧ l < 2 ^ 32 := by
  intro lv hlv l hl
  simp only [List.mem_cons, List.not_mem_nil, or_false] at hlv
  rcases hlv with rfl | rfl | rfl | rfl | rfl <;>
    simp only [levelsMnemonic, levelsWif, levelsXprv, levelsHex, levelsPwd, List.mem_cons,
      List.not_mem_nil, or_false] at hl <;>
    omega

/-! ### parameters and indexes outside the allowed sets are rejected -/

/-- an index that is negative or ≥ 2^31 makes each of the five applications raise, whatever
the other argument: the path string does not parse, no key is derived -/
theorem bip85_rejects_index (P : Prims Pt) (m : Node) (i : Int) (hbad : i < 0 ∨ 2 ^ 31 ≤ i) :
    (∀ wc, bip39Mnemonic P m wc i = none) ∧ Bip85.wif P m i = none ∧ xprv P m i = none ∧
      (∀ nb, hex P m nb i = none) ∧ (∀ len, pwd P m len i = none) := by
  have hi : ¬ InRange i := by unfold InRange; omega
  exact ⟨fun wc => by rw [bip39Mnemonic_eq, if_neg (hi ∘ And.right)], by rw [wif_eq, if_neg hi],
    by rw [xprv_eq, if_neg hi], fun nb => by rw [hex_eq, if_neg (hi ∘ And.right)],
    fun len => by rw [pwd_eq, if_neg (hi ∘ And.right)]⟩

example : ((-1 : Int) < 0 ∨ (2 : Int) ^ 31 ≤ -1) ∧ ((2147483648 : Int) < 0 ∨ (2 : Int) ^ 31 ≤ 2147483648) := by
  decide

/-- a rejected index never reaches the derivation: the rendered path itself is refused by
`Bip32Path.parse` (for a negative index the component is `-k'`, not a decimal number) -/
theorem bip85_bad_index_path (i : Int) (hbad : i < 0 ∨ 2 ^ 31 ≤ i) (a : Int) :
    Path.parse (fmt Generated.bip85TplMnemonic [a, i]) = none ∧
    Path.parse (fmt Generated.bip85TplWif [i]) = none ∧
    Path.parse (fmt Generated.bip85TplXprv [i]) = none ∧
    Path.parse (fmt Generated.bip85TplHex [a, i]) = none ∧
    Path.parse (fmt Generated.bip85TplPwd [a, i]) = none := by
  have hi : ¬ InRange i := by unfold InRange; omega
  exact ⟨by rw [parse_fmt_mnemonic, if_neg (hi ∘ And.right)], by rw [parse_fmt_wif, if_neg hi],
    by rw [parse_fmt_xprv, if_neg hi], by rw [parse_fmt_hex, if_neg (hi ∘ And.right)],
    by rw [parse_fmt_pwd, if_neg (hi ∘ And.right)]⟩

/-- a word count other than 12, 15, 18, 21, 24 (negative ones included) is rejected -/
theorem mnemonic_rejects_word_count (P : Prims Pt) (m : Node) (wc i : Int)
    (hbad : ¬ (0 ≤ wc ∧ wc.toNat ∈ [12, 15, 18, 21, 24])) : bip39Mnemonic P m wc i = none := by
  rw [bip39Mnemonic_eq, if_neg (hbad ∘ And.left)]

theorem hex_rejects_num_bytes (P : Prims Pt) (m : Node) (nb i : Int) (hbad : nb < 16 ∨ 64 < nb) :
    hex P m nb i = none := by
  rw [hex_eq, if_neg (by omega)]

theorem pwd_rejects_length (P : Prims Pt) (m : Node) (len i : Int) (hbad : len < 20 ∨ 86 < len) :
    pwd P m len i = none := by
  rw [pwd_eq, if_neg (by omega)]

example : ¬ (0 ≤ (13 : Int) ∧ (13 : Int).toNat ∈ [12, 15, 18, 21, 24]) ∧
    ¬ (0 ≤ (-12 : Int) ∧ (-12 : Int).toNat ∈ [12, 15, 18, 21, 24]) ∧
    ((15 : Int) < 16 ∨ 64 < (15 : Int)) ∧ ((87 : Int) < 20 ∨ 86 < (87 : Int)) := by decide

/-- a result is produced only for arguments in the allowed sets -/
theorem bip85_some_only_if_allowed (P : Prims Pt) (m : Node) (a i : Int) :
    ((bip39Mnemonic P m a i).isSome → (0 ≤ a ∧ a.toNat ∈ [12, 15, 18, 21, 24]) ∧ 0 ≤ i ∧ i < 2 ^ 31) ∧
    ((Bip85.wif P m i).isSome → 0 ≤ i ∧ i < 2 ^ 31) ∧
    ((xprv P m i).isSome → 0 ≤ i ∧ i < 2 ^ 31) ∧
    ((hex P m a i).isSome → (16 ≤ a ∧ a ≤ 64) ∧ 0 ≤ i ∧ i < 2 ^ 31) ∧
    ((pwd P m a i).isSome → (20 ≤ a ∧ a ≤ 86) ∧ 0 ≤ i ∧ i < 2 ^ 31) := by
  have guard {α : Type} {c : Prop} [Decidable c] {x : Option α}
      (h : (if c then x else none).isSome) : c := by
    split at h
    · assumption
    · cases h
  rw [bip39Mnemonic_eq, wif_eq, xprv_eq, hex_eq, pwd_eq]
  exact ⟨guard, guard, guard, guard, guard⟩

/-! ### what is computed for allowed arguments -/

/-- the entropy of a level list: derive the node from the master by the levels, take its
private scalar `k`, and compute HMAC-SHA512 keyed `bip-entropy-from-k` over `ser256(k)` -/
theorem entropyAt_eq_some_iff (P : Prims Pt) (m : Node) (lv : List Nat) (e : Bytes) :
    entropyAt P m lv = some e ↔
      ∃ node k, derivePath P m lv = some node ∧ prvKey P node = some k ∧
        e = P.hmac512 Generated.bip85Key (beFixed 32 k) := by
  unfold entropyAt privBytes
  simp only [Option.bind_eq_some_iff, Option.map_eq_some_iff]
  exact ⟨fun ⟨n, h1, k, h2, h3⟩ => ⟨n, k, h1, h2, h3.symm⟩,
    fun ⟨n, k, h1, h2, h3⟩ => ⟨n, h1, k, h2, h3.symm⟩⟩

/-- the HMAC message is the 32-byte `key` field of the derived node: a node derived from a
private master by at least one step stores a valid scalar in exactly 32 bytes -/
theorem entropy_message_is_node_key (P : Prims Pt) (hn : P.curve.n ≤ 2 ^ 256) {m node : Node}
    (hm : m.isPrv = true) (is : List Nat) (i : Nat) (hi : i < 2 ^ 32)
    (h : derivePath P m (is ++ [i]) = some node) :
    entropyAt P m (is ++ [i]) = some (P.hmac512 Generated.bip85Key node.key) ∧
      node.key.length = 32 ∧ 1 ≤ beToNat node.key ∧ beToNat node.key < P.curve.n := by
  obtain ⟨k, h1, h2, h3, h4⟩ := derived_key P hn hm is i hi h
  have hk : beToNat node.key = k := by
    rw [h4, BeFixed.beToNat_beFixed (by omega)]
  exact ⟨(entropyAt_eq_some_iff P m _ _).mpr ⟨node, k, h, h1, by rw [h4]⟩,
    by rw [h4, BeFixed.beFixed_length], by omega, by omega⟩

/-- BIP39 application: for a word count in {12,15,18,21,24} and an index below 2^31 the
result is `mnemonic_from_entropy` of the first 16/20/24/28/32 (`= wc·4/3`) bytes of the
entropy at `m/83696968'/39'/0'/wc'/i'` -/
theorem bip85_mnemonic_spec (P : Prims Pt) (m : Node) (wc i : Nat)
    (hwc : wc ∈ [12, 15, 18, 21, 24]) (hi : i < 2 ^ 31) :
    bip39Mnemonic P m wc i =
      (entropyAt P m [83696968 + 2 ^ 31, 39 + 2 ^ 31, 0 + 2 ^ 31, wc + 2 ^ 31, i + 2 ^ 31]).bind
        fun e => Bip39.mnemonicFromEntropy P.sha256 (toHex (e.take (wc * 4 / 3))) := by
  rw [bip39Mnemonic_eq, if_pos ⟨⟨by omega, hwc⟩, inRange_natCast.mpr hi⟩]
  rfl

example : (24 : Nat) ∈ [12, 15, 18, 21, 24] ∧ (7 : Nat) < 2 ^ 31 ∧ 24 * 4 / 3 = 32 := by decide

/-- the derived mnemonic has exactly the requested number of words (given 64-byte HMAC and
32-byte SHA-256 outputs), each an entry of the official list at the index fixed by the bits of
the truncated entropy and its checksum (`C04.mnemonic_route`) -/
theorem bip85_mnemonic_words (P : Prims Pt) (hhmac : ∀ k d, (P.hmac512 k d).length = 64)
    (hsha : ∀ x, (P.sha256 x).length = 32) (m : Node) (wc i : Nat)
    (hwc : wc ∈ [12, 15, 18, 21, 24]) (hi : i < 2 ^ 31) (e : Bytes)
    (he : entropyAt P m (levelsMnemonic wc i) = some e) :
    ∃ s, bip39Mnemonic P m wc i = some s ∧ (splitOn ' ' s).length = wc ∧
      ∃ idx, Bip39.indexesFromEntropy P.sha256 (toHex (e.take (wc * 4 / 3))) = some idx ∧
        splitOn ' ' s = idx.map (fun j => (Official.words[j]!).toList) ∧
        idx.flatMap (Bip39.bitsBE 11) = Bip39.bytesBits (e.take (wc * 4 / 3)) ++
          (Bip39.bytesBits (P.sha256 (e.take (wc * 4 / 3)))).take (wc / 3) := by
  -- the byte count `wc·4/3` is 16, 20, 24, 28 or 32
  have hn : wc * 4 / 3 ≤ 64 ∧ wc * 4 / 3 * 8 ∈ Generated.correctEntropyBits ∧
      wc * 4 / 3 * 3 / 4 = wc ∧ wc * 4 / 3 / 4 = wc / 3 := by
    simp only [List.mem_cons, List.not_mem_nil, or_false] at hwc
    rcases hwc with rfl | rfl | rfl | rfl | rfl <;> decide
  have htl : (e.take (wc * 4 / 3)).length = wc * 4 / 3 := by
    rw [List.length_take, entropyAt_length hhmac he]; exact Nat.min_eq_left hn.1
  obtain ⟨idx, h1, h2, _, h5, _, h6, h7⟩ := C04.mnemonic_route P.sha256 hsha _ _
    (C04.fromHex_toHex (e.take (wc * 4 / 3))) (by rw [htl]; exact hn.2.1)
  rw [htl] at h2 h5
  refine ⟨_, ?_, ?_, idx, h1, h7, ?_⟩
  · unfold levelsMnemonic at he
    rw [bip85_mnemonic_spec P m wc i hwc hi, he, Option.bind_some, h6]
  · rw [h7, List.length_map, h2, hn.2.2.1]
  · rw [h5, hn.2.2.2]

/-- `PrivateKey(b).wif()` for a 32-byte string `b`: Base58Check of `80 ‖ b ‖ 01` -/
theorem wif_bytes (P : Prims Pt) (b : Bytes) (hb : b.length = 32) :
    Keys.wif P (beToNat b) true false = Base58.encodeCheck P.hash256 ([0x80] ++ b ++ [0x01]) := by
  unfold Keys.wif privBytes
  rw [BeFixed.beFixed_beToNat hb]
  rfl

/-- WIF application: for an index below 2^31, with `e` the entropy at `m/83696968'/2'/i'`
and `s` its first 32 bytes as an integer: the compressed mainnet WIF of `s` when `1 ≤ s < n`
(Base58Check of `80 ‖ e[:32] ‖ 01`), an error otherwise -/
theorem bip85_wif_spec (P : Prims Pt) (hhmac : ∀ k d, (P.hmac512 k d).length = 64) (m : Node)
    (i : Nat) (hi : i < 2 ^ 31) :
    Bip85.wif P m i =
      (entropyAt P m [83696968 + 2 ^ 31, 2 + 2 ^ 31, i + 2 ^ 31]).bind fun e =>
        if 1 ≤ beToNat (e.take 32) ∧ beToNat (e.take 32) < P.curve.n then
          some (Keys.wif P (beToNat (e.take 32)) true false)
        else none := by
  rw [wif_eq, if_pos (inRange_natCast.mpr hi)]
  refine Option.bind_congr fun e he => ?_
  rw [wifBody_eq P e (by have := entropyAt_length hhmac he; omega)]

/-- XPRV application: for an index below 2^31, with `e` the 64-byte entropy at
`m/83696968'/32'/i'`: when its right half is a valid scalar, the Base58Check string of
`0488ADE4 ‖ 00 ‖ 00000000 ‖ 00000000 ‖ e[:32] ‖ 00 ‖ e[32:]` (mainnet xprv version, depth 0, zero
fingerprint and child number, chain code = left half, key = right half); an error otherwise -/
theorem bip85_xprv_spec (P : Prims Pt) (hhmac : ∀ k d, (P.hmac512 k d).length = 64) (m : Node)
    (i : Nat) (hi : i < 2 ^ 31) :
    xprv P m i =
      (entropyAt P m [83696968 + 2 ^ 31, 32 + 2 ^ 31, i + 2 ^ 31]).bind fun e =>
        if 1 ≤ beToNat (e.drop 32) ∧ beToNat (e.drop 32) < P.curve.n then
          some (Base58.encodeCheck P.hash256
            ([0x04, 0x88, 0xAD, 0xE4] ++ [0] ++ [0, 0, 0, 0] ++ [0, 0, 0, 0] ++ e.take 32
              ++ ([0] ++ e.drop 32)))
        else none := by
  rw [xprv_eq, if_pos (inRange_natCast.mpr hi)]
  exact Option.bind_congr fun e he => xprvBody_eq P e (entropyAt_length hhmac he)

/-- the string of `bip85_xprv_spec` is the extended private key of the master node
`PrvKeyNode(key = e[32:], chain_code = e[:32])` under the default (mainnet) version -/
theorem bip85_xprv_is_extended_key (P : Prims Pt) (e : Bytes) (hlen : e.length = 64)
    (h1 : 1 ≤ beToNat (e.drop 32)) (h2 : beToNat (e.drop 32) < P.curve.n) :
    extendedPrivateKey P (xprvNode (e.take 32) (e.drop 32)) none =
      some (Base58.encodeCheck P.hash256
        ([0x04, 0x88, 0xAD, 0xE4] ++ [0] ++ [0, 0, 0, 0] ++ [0, 0, 0, 0] ++ e.take 32
          ++ ([0] ++ e.drop 32))) ∧
      isMaster (xprvNode (e.take 32) (e.drop 32)) = true ∧
      (xprvNode (e.take 32) (e.drop 32)).testnet = false :=
  ⟨extendedPrivateKey_xprvNode P _ _ (by rw [List.length_drop]; omega) h1 h2, rfl, rfl⟩

private theorem toHex_length (bs : Bytes) : (toHex bs).length = 2 * bs.length := by
  induction bs with
  | nil => rfl
  | cons b bs ih => simp only [toHex, List.length_cons, ih]; omega

/-- HEX application: for 16 ≤ nb ≤ 64 and an index below 2^31, the lower-case hex of the
first `nb` bytes of the entropy at `m/83696968'/128169'/nb'/i'` -/
theorem bip85_hex_spec (P : Prims Pt) (m : Node) (nb i : Nat) (hnb : 16 ≤ nb ∧ nb ≤ 64)
    (hi : i < 2 ^ 31) :
    hex P m nb i =
      (entropyAt P m [83696968 + 2 ^ 31, 128169 + 2 ^ 31, nb + 2 ^ 31, i + 2 ^ 31]).map
        fun e => toHex (e.take nb) := by
  rw [hex_eq, if_pos ⟨by omega, inRange_natCast.mpr hi⟩]
  rfl

/-- the hex string has exactly `2·nb` characters (64-byte HMAC output) -/
theorem bip85_hex_length (P : Prims Pt) (hhmac : ∀ k d, (P.hmac512 k d).length = 64) (m : Node)
    (nb i : Nat) (hnb : 16 ≤ nb ∧ nb ≤ 64) (hi : i < 2 ^ 31) (s : List Char)
    (h : hex P m nb i = some s) : s.length = 2 * nb := by
  rw [bip85_hex_spec P m nb i hnb hi] at h
  obtain ⟨e, he, rfl⟩ := Option.map_eq_some_iff.mp h
  rw [toHex_length, List.length_take, entropyAt_length hhmac he]
  omega

/-- PWD application: for 20 ≤ len ≤ 86 and an index below 2^31, the first `len`
characters of the Base64 text of the entropy at `m/83696968'/707764'/len'/i'` -/
theorem bip85_pwd_spec (P : Prims Pt) (m : Node) (len i : Nat) (hlen : 20 ≤ len ∧ len ≤ 86)
    (hi : i < 2 ^ 31) :
    pwd P m len i =
      (entropyAt P m [83696968 + 2 ^ 31, 707764 + 2 ^ 31, len + 2 ^ 31, i + 2 ^ 31]).map
        fun e => (base64 e).take len := by
  rw [pwd_eq, if_pos ⟨by omega, inRange_natCast.mpr hi⟩]
  rfl

/-- the password has exactly `len` characters, all from the Base64 alphabet `A-Za-z0-9+/`
(never the `=` padding, never whitespace — so `.strip()` is the identity): the Base64 text of
64 bytes has 88 characters of which only the last two are padding -/
theorem bip85_pwd_shape (P : Prims Pt) (hhmac : ∀ k d, (P.hmac512 k d).length = 64) (m : Node)
    (len i : Nat) (hlen : 20 ≤ len ∧ len ≤ 86) (hi : i < 2 ^ 31) (s : List Char)
    (h : pwd P m len i = some s) :
    s.length = len ∧ (∀ c ∈ s, c ∈ b64Alphabet) ∧ '=' ∉ s ∧
      ∀ c ∈ s, c.isAlphanum = true ∨ c = '+' ∨ c = '/' := by
  rw [bip85_pwd_spec P m len i hlen hi] at h
  obtain ⟨e, he, rfl⟩ := Option.map_eq_some_iff.mp h
  -- 64 bytes give 86 alphabet characters and then `==`
  obtain ⟨body, hb, hl, hmem⟩ := base64_eq e
  rw [entropyAt_length hhmac he] at hl
  rw [hb, List.take_append_of_le_length (by omega)]
  have hmem' : ∀ c ∈ body.take len, c ∈ b64Alphabet := fun c hc => hmem c (List.mem_of_mem_take hc)
  exact ⟨by rw [List.length_take]; omega, hmem',
    fun hm => absurd (b64Alphabet_spec.2 _ (hmem' _ hm)) (by decide),
    fun c hc => b64Alphabet_spec.2 c (hmem' c hc)⟩

theorem base64_64 (e : Bytes) (he : e.length = 64) :
    (base64 e).length = 88 ∧ (base64 e).drop 86 = ['=', '='] := by
  obtain ⟨body, hb, hl, _⟩ := base64_eq e
  rw [he] at hb hl
  rw [hb]
  exact ⟨by rw [List.length_append, hl]; rfl, List.drop_left' hl⟩

example : (∀ k d, (Toy.prims.hmac512 k d).length = 64) ∧ (∀ x, (Toy.prims.sha256 x).length = 32) :=
  ⟨fun _ _ => by simp [Toy.prims], fun _ => by simp [Toy.prims]⟩

/-- non-vacuity: an instance (toy curve of order 7, constant 64-byte HMAC) on which the master
key exists, all five level derivations succeed and all five applications return a value -/
example : ∃ m, masterKey Toy.prims7 [] false = some m ∧
    (∀ k d, (Toy.prims7.hmac512 k d).length = 64) ∧
    entropyAt Toy.prims7 m (levelsMnemonic 24 0) = some Toy.hm7 ∧
    (bip39Mnemonic Toy.prims7 m 24 0).isSome ∧ (Bip85.wif Toy.prims7 m 0).isSome ∧
    (xprv Toy.prims7 m 0).isSome ∧ (hex Toy.prims7 m 32 0).isSome ∧
    (pwd Toy.prims7 m 21 0).isSome := by
  refine ⟨_, rfl, fun _ _ => rfl, ?_⟩
  decide +kernel

/-! ### distinct requests use distinct paths -/

inductive App
  | mnemonic | wif | xprv | hex | pwd
deriving DecidableEq, Repr

/-- the level list used for an (application, parameter, index) request; WIF and XPRV have
no parameter -/
def levels : App → Nat → Nat → List Nat
  | .mnemonic, p, i => levelsMnemonic p i
  | .wif, _, i => levelsWif i
  | .xprv, _, i => levelsXprv i
  | .hex, p, i => levelsHex p i
  | .pwd, p, i => levelsPwd p i

/-- the allowed requests (parameter of the parameterless applications fixed to 0) -/
def Allowed : App → Nat → Nat → Prop
  | .mnemonic, p, i => p ∈ [12, 15, 18, 21, 24] ∧ i < 2 ^ 31
  | .wif, p, i => p = 0 ∧ i < 2 ^ 31
  | .xprv, p, i => p = 0 ∧ i < 2 ^ 31
  | .hex, p, i => (16 ≤ p ∧ p ≤ 64) ∧ i < 2 ^ 31
  | .pwd, p, i => (20 ≤ p ∧ p ≤ 86) ∧ i < 2 ^ 31

/-- distinct allowed (application, parameter, index) triples use distinct derivation paths -/
theorem bip85_paths_injective (a a' : App) (p p' i i' : Nat) (h : Allowed a p i)
    (h' : Allowed a' p' i') (heq : levels a p i = levels a' p' i') : a = a' ∧ p = p' ∧ i = i' := by
  -- two different applications differ in the second level (or in the number of levels), which
  -- closes those cases; for the same application the parameter and index levels are compared
  cases a <;> cases a' <;>
    simp only [levels, levelsMnemonic, levelsWif, levelsXprv, levelsHex, levelsPwd, List.cons.injEq,
      Nat.add_right_cancel_iff, Nat.reduceEqDiff, and_true, true_and, false_and, and_false,
      reduceCtorEq] at heq <;>
    simp only [Allowed] at h h' <;>
    (refine ⟨rfl, ?_, ?_⟩ <;> omega)

example : Allowed .mnemonic 24 0 ∧ Allowed .hex 32 5 ∧ Allowed .wif 0 1 := by
  simp [Allowed]

/-- the same on the rendered path strings: two allowed requests with the same rendered path
are the same request -/
theorem bip85_path_strings_injective (a a' : App) (p p' i i' : Nat) (h : Allowed a p i)
    (h' : Allowed a' p' i') :
    let tpl : App → Nat → Nat → List Char := fun a p i =>
      match a with
      | .mnemonic => fmt Generated.bip85TplMnemonic [p, i]
      | .wif => fmt Generated.bip85TplWif [i]
      | .xprv => fmt Generated.bip85TplXprv [i]
      | .hex => fmt Generated.bip85TplHex [p, i]
      | .pwd => fmt Generated.bip85TplPwd [p, i]
    tpl a p i = tpl a' p' i' → a = a' ∧ p = p' ∧ i = i' := by
  intro tpl heq
  have hparse : ∀ a p i, Allowed a p i → Path.parse (tpl a p i) = some ⟨levels a p i, true⟩ := by
    intro a p i h
    have hlt : p < 2 ^ 31 ∧ i < 2 ^ 31 := by
      cases a <;> simp only [Allowed, List.mem_cons, List.not_mem_nil, or_false] at h <;> omega
    cases a <;>
      simp [tpl, levels, parse_fmt_mnemonic, parse_fmt_wif, parse_fmt_xprv, parse_fmt_hex,
        parse_fmt_pwd, inRange_natCast, hlt]
  have h1 := hparse a p i h
  have h2 := hparse a' p' i' h'
  rw [heq, h2] at h1
  simp only [Option.some.injEq, Path.Path.mk.injEq, and_true] at h1
  exact bip85_paths_injective a a' p p' i i' h h' h1.symm

end BtcHd.C12
