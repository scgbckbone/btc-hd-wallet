/-
Translated Python (`BtcHd.CodeObj3`, generated from /repo by harness/translate_obj3.py) = hand-written model:
`bip85.py` (`_hmac_sha512`, `entropy`, `correct_key`, `correct_index`, the five applications) and `paper_wallet.py`
(`group`, `bip44/49/84_group`, `bip44/49/84`, `bip85_data`, `master_data`, `generate`); from `__main__.py`
`paranoia_mode` and `main()` after `parse_args` (`nsOf` is the `Namespace` argparse hands to it).
The tables the translator uses are stated in the header of harness/translate_obj3.py.
-/
import BtcHd.Generated.CodeObj3
import BtcHd.Lemmas.Bip85
import BtcHd.Props.TrWallet
import BtcHd.Model.Cli

namespace BtcHd.TrPaper
open BtcHd BtcHd.Translated BtcHd.TrBip32 BtcHd.TrWallet Bip32 Keys Wallet Cli

variable {Pt : Type}

/-- `entropy(path)`: HMAC-SHA512 under the key literal of the class body over the private key at the parsed path -/
theorem entropy_eq (P : Prims Pt) (m : Node) (path : List Char) :
    CodeObj3.b85_entropy P m path = Bip85.entropy P m path := by
  unfold CodeObj3.b85_entropy Bip85.entropy CodeObj3.b85_hmac Generated.bip85Key
  simp only [derive_path_eq, private_key_eq, (hashes_eq P _ _).2.2.2]
  refine Option.bind_congr fun _ _ => Option.bind_congr fun _ _ => ?_
  rw [Option.map_eq_bind]
  rfl

/-- `correct_key`: refuses 0 and values ≥ n; `correct_index` accepts every integer.  The first part does not depend
on `i` nor the second on `kb`: users pass a dummy for the argument they do not need. -/
theorem correct_key_eq (P : Prims Pt) (kb : Bytes) (i : Int) :
    CodeObj3.b85_correct_key P kb = (if Bip85.correctKey P kb then some () else none) ∧
      CodeObj3.b85_correct_index i = some () := by
  refine ⟨?_, rfl⟩
  unfold CodeObj3.b85_correct_key Bip85.correctKey
  show (do
      if beToNat kb = 0 then none
      if beToNat kb ≥ P.curve.n then none
      return ()) = _
  by_cases h0 : beToNat kb = 0
  · simp [h0]
  · by_cases hn : beToNat kb ≥ P.curve.n <;> simp [h0, hn]

private theorem wc_eq (wc : Int) :
    (if wc < 0 then none else Code.byte_count_from_word_count wc.toNat) = Bip85.byteCountFromWordCount wc := by
  by_cases h : wc < 0
  · rw [if_pos h, Bip85.byteCountFromWordCount, if_neg (by omega)]
  · rw [if_neg h, byteCount_eq, Int.toNat_of_nonneg (by omega)]

private theorem base64_no_space : ∀ (bs : Bytes), ∀ c ∈ Bip85.base64 bs, Text.isSpace c = false := by
  intro bs
  have h : ∀ c ∈ '=' :: Bip85.b64Alphabet, Text.isSpace c = false := by
    unfold Bip85.b64Alphabet
    rw [String.toList_ofList]
    decide +kernel
  obtain ⟨body, hb, _, hmem⟩ := Bip85.base64_eq bs
  rw [hb]
  exact List.forall_mem_append.mpr ⟨fun c hc => h c (List.mem_cons_of_mem _ (hmem c hc)),
    fun c hc => h c (List.eq_of_mem_replicate hc ▸ List.mem_cons_self)⟩

theorem applications_eq (P : Prims Pt) (m : Node) (param i : Int) :
    CodeObj3.b85_bip39_mnemonic P m param i = Bip85.bip39Mnemonic P m param i ∧
    CodeObj3.b85_wif P m i = Bip85.wif P m i ∧
    CodeObj3.b85_xprv P m i = Bip85.xprv P m i ∧
    CodeObj3.b85_hex P m param i = Bip85.hex P m param i ∧
    CodeObj3.b85_pwd P m param i = Bip85.pwd P m param i := by
  refine ⟨?_, ?_, ?_, ?_, ?_⟩
  · unfold CodeObj3.b85_bip39_mnemonic Bip85.bip39Mnemonic Generated.bip85TplMnemonic
    simp only [entropy_eq, wc_eq, mnemonic_from_entropy_eq]
    rfl
  · unfold CodeObj3.b85_wif Bip85.wif Generated.bip85TplWif
    simp only [entropy_eq, (correct_key_eq P _ 0).1, (correct_key_eq P [] i).2, wif_eq, Option.bind_eq_bind,
      Option.bind_some]
    refine Option.bind_congr fun e _ => ?_
    cases Bip85.correctKey P (e.take 32)
    · rfl
    · exact (Option.map_eq_bind ..).symm
  · unfold CodeObj3.b85_xprv Bip85.xprv Generated.bip85TplXprv
    simp only [entropy_eq, (correct_key_eq P _ 0).1, (correct_key_eq P [] i).2, Option.bind_eq_bind,
      Option.bind_some]
    refine Option.bind_congr fun e _ => ?_
    cases Bip85.correctKey P (e.drop 32)
    · rfl
    · exact (extended_keys_eq P _ none).2 rfl
  · unfold CodeObj3.b85_hex Bip85.hex Generated.bip85TplHex Generated.bip85HexBounds
    simp only [entropy_eq, (correct_key_eq P [] i).2, Option.bind_eq_bind, Option.bind_some]
    split
    · rw [if_neg ‹_›]; rfl
    · rw [if_pos (not_not.mp ‹_›), Option.map_eq_bind]; rfl
  · unfold CodeObj3.b85_pwd Bip85.pwd Generated.bip85TplPwd Generated.bip85PwdBounds
    simp only [entropy_eq, (correct_key_eq P [] i).2, Option.bind_eq_bind, Option.bind_some,
      Text.strip_of_all (base64_no_space _)]
    split
    · rw [if_neg ‹_›]; rfl
    · rw [if_pos (not_not.mp ‹_›), Option.map_eq_bind]; rfl

/-- one row of `group`, then `group` itself (the list comprehension is a `mapM` of rows) -/
theorem group_eq (P : Prims Pt) (w : Wallet) (nodes : List Node) (addr : Node → Option (List Char)) :
    CodeObj3.pw_group P w nodes addr = group P w addr nodes := by
  unfold CodeObj3.pw_group group
  simp only [public_key_eq, private_key_eq, (addresses_eq P w w.master).1, (pk_basic_eq P _ true []).1,
    wif_eq]
  refine congrArg (List.mapM · nodes) (funext fun nd => ?_)
  unfold groupRow
  refine Option.bind_congr fun a _ => Option.bind_congr fun K _ => ?_
  cases w.watchOnly
  · simp only [Bool.false_eq_true, if_false]
    cases prvKey P nd <;> rfl
  · rfl

private theorem acct_eq (P : Prims Pt) (w : Wallet) (purpose account : Nat) (iv : Nat × Nat)
    (addr : Node → Option (List Char)) :
    (do
      let acct_node ← CodeObj.pub_derive_path P w.master
        [purpose + 2 ^ 31, (if w.testnet = true then 1 + 2 ^ 31 else 2 ^ 31), account + 2 ^ 31]
      let acct_ext_keys ← CodeObj2.w_node_extended_keys P w acct_node
      let external_chain_node ← CodeObj.pub_derive_path P acct_node ([0] : List Nat)
      let rows ← CodeObj3.pw_group P w (← CodeObj.pub_generate_children P external_chain_node iv) addr
      pure (acct_ext_keys, rows) : Option (Json × List Json)) = bipAccount P w purpose addr account iv.1 iv.2 := by
  obtain ⟨a, b⟩ := iv
  unfold bipAccount
  simp only [derive_path_eq, (node_keys_eq P w _ 0).2.2.2, group_eq, Bip32.hardened_eq,
    generate_children_eq]
  repeat refine Option.bind_congr fun _ _ => ?_
  exact (Option.map_eq_bind ..).symm

/-- `bip44 / bip49 / bip84`: account path, account extended keys, rows of the external chain -/
theorem accounts_eq (P : Prims Pt) (w : Wallet) (account a b : Nat) :
    CodeObj3.pw_bip44 P w account (a, b) = bipAccount P w 44 (p2pkhAddress P w.testnet) account a b ∧
    CodeObj3.pw_bip49 P w account (a, b) = bipAccount P w 49 (p2shP2wpkhAddress P w.testnet) account a b ∧
    CodeObj3.pw_bip84 P w account (a, b) = bipAccount P w 84 (p2wpkhAddress P w.testnet) account a b := by
  have f1 : CodeObj2.w_p2pkh_address P w = p2pkhAddress P w.testnet := funext fun nd => (addresses_eq P w nd).2.1
  have f2 : CodeObj2.w_p2sh_p2wpkh_address P w = p2shP2wpkhAddress P w.testnet := funext fun nd => (addresses_eq P w nd).2.2.2.1
  have f3 : CodeObj2.w_p2wpkh_address P w = p2wpkhAddress P w.testnet := funext fun nd => (addresses_eq P w nd).2.2.1
  refine ⟨?_, ?_, ?_⟩
  · rw [← acct_eq P w 44 account (a, b), ← f1]; rfl
  · rw [← acct_eq P w 49 account (a, b), ← f2]; rfl
  · rw [← acct_eq P w 84 account (a, b), ← f3]; rfl

/-- `bip85_data` (refused on watch-only wallets: `self.bip85` is `None`), `master_data`, `generate` -/
theorem report_eq (P : Prims Pt) (w : Wallet) (account a b : Nat) :
    CodeObj3.pw_bip85_data P w = bip85Data P w ∧ CodeObj3.pw_master_data w = masterData w ∧
      CodeObj3.pw_generate P w account (a, b) = generate P w account a b := by
  have h85 : CodeObj3.pw_bip85_data P w = bip85Data P w := by
    unfold CodeObj3.pw_bip85_data bip85Data
    rw [show CodeObj3.T2w w = w.watchOnly from (addresses_eq P w w.master).1]
    cases w.watchOnly
    · simp only [Bool.false_eq_true, if_false, (applications_eq P w.master _ _).1,
        (applications_eq P w.master 0 _).2.1, (applications_eq P w.master 0 _).2.2.1]
      -- the two chains of nine BIP85 calls agree link by link; the keys agree as lists of characters
      iterate 8 refine Option.bind_congr fun _ _ => ?_
      rw [Option.map_eq_bind]
      refine Option.bind_congr fun _ _ => ?_
      repeat rw [String.toList_ofList]
      rfl
    · rfl
  have hm : CodeObj3.pw_master_data w = masterData w := by
    unfold CodeObj3.pw_master_data masterData
    repeat rw [String.toList_ofList]
    rfl
  refine ⟨h85, hm, ?_⟩
  unfold CodeObj3.pw_generate generate
  rw [(accounts_eq P w account a b).1, (accounts_eq P w account a b).2.1, (accounts_eq P w account a b).2.2,
    h85, hm]
  iterate 3 refine Option.bind_congr fun _ _ => ?_
  rw [Option.map_eq_bind]
  refine Option.bind_congr fun _ _ => ?_
  unfold acctJson
  repeat rw [String.toList_ofList]
  rfl

/-- `paranoiaEntry` read the way the source reads it: one subscript after the other -/
private theorem paranoiaEntry_eq (v : Json) : paranoiaEntry v =
    (Py.jsonGet v "account_extended_keys".toList).bind fun ak =>
    (Py.jsonGet ak "path".toList).bind fun pth =>
    (Py.jsonGet ak "pub".toList).bind fun pub =>
    (Py.jsonGet v "groups".toList).bind fun g =>
    (Py.jsonElems g).bind fun rows =>
    (rows.mapM Py.jsonDropLast).map fun rows' =>
      .obj [("account_extended_keys".toList, .obj [("path".toList, pth), ("pub".toList, pub)]),
            ("groups".toList, .arr rows')] := by
  unfold paranoiaEntry
  cases v with
  | obj inner =>
    simp only [Py.jsonGet]
    rcases inner.lookup "account_extended_keys".toList with _ | (_ | _ | _ | keys) <;>
      rcases inner.lookup "groups".toList with _ | (_ | _ | rows | _) <;> try rfl
    all_goals
      simp only [Option.bind_some]
      rcases keys.lookup "path".toList with _ | pth <;>
        rcases keys.lookup "pub".toList with _ | pub <;> rfl
  | _ => rfl

/-- `paranoia_mode(data)` (`__main__.py`): the translated dict comprehension is the model's filter -/
theorem paranoia_eq (data : Json) : CodeObj3.paranoia_mode data = paranoia data := by
  unfold CodeObj3.paranoia_mode paranoia Generated.paranoiaKeys
  cases data with
  | obj kvs =>
    simp only [Py.jsonItems, Option.pure_def, Option.bind_eq_bind, Option.bind_some]
    rw [Option.map_eq_bind]
    refine congrArg (Option.bind · _) (congrArg (List.mapM · _) (funext fun kv => ?_))
    rw [paranoiaEntry_eq]
    simp only [Option.map_bind, Option.map_map, Function.comp_def]
    repeat rw [String.toList_ofList]
    -- the source evaluates `v["account_extended_keys"]` twice
    refine Option.bind_congr fun ak hak => Option.bind_congr fun pth _ => ?_
    rw [hak, Option.bind_some]
    repeat refine Option.bind_congr fun _ _ => ?_
    exact (Option.map_eq_bind ..).symm
  | _ => rfl

/-- how `argparse` fills the `Namespace` for a parsed command line (global options + one sub-command): the table the
translation of `main` relies on.  The command names are spelt as the generated `main_body` spells them: its tests
`args.command = [Char.ofNat 110, …]` are then decided on numerals, where `"new".toList` would first have to be evaluated. -/
def nsOf (g : Globals) : Cmd → CodeObj3.Namespace
  -- "new"
  | .new pw len => { command := ([Char.ofNat 110, Char.ofNat 101, Char.ofNat 119] : List Char), mnemonic_len := len, password := pw, testnet := g.testnet,
                     account := g.account, interval := (g.a, g.b), paranoia := g.paranoia, file := g.file }
  -- "from-master-xprv"
  | .fromXprv k => { command := ([Char.ofNat 102, Char.ofNat 114, Char.ofNat 111, Char.ofNat 109, Char.ofNat 45, Char.ofNat 109, Char.ofNat 97, Char.ofNat 115, Char.ofNat 116, Char.ofNat 101, Char.ofNat 114, Char.ofNat 45, Char.ofNat 120, Char.ofNat 112, Char.ofNat 114, Char.ofNat 118] : List Char), master_xprv := k, testnet := g.testnet,
                     account := g.account, interval := (g.a, g.b), paranoia := g.paranoia, file := g.file }
  -- "from-mnemonic"
  | .fromMnemonic m pw => { command := ([Char.ofNat 102, Char.ofNat 114, Char.ofNat 111, Char.ofNat 109, Char.ofNat 45, Char.ofNat 109, Char.ofNat 110, Char.ofNat 101, Char.ofNat 109, Char.ofNat 111, Char.ofNat 110, Char.ofNat 105, Char.ofNat 99] : List Char), mnemonic := m, password := pw, testnet := g.testnet,
                            account := g.account, interval := (g.a, g.b), paranoia := g.paranoia, file := g.file }
  -- "from-bip39-seed"
  | .fromSeed s => { command := ([Char.ofNat 102, Char.ofNat 114, Char.ofNat 111, Char.ofNat 109, Char.ofNat 45, Char.ofNat 98, Char.ofNat 105, Char.ofNat 112, Char.ofNat 51, Char.ofNat 57, Char.ofNat 45, Char.ofNat 115, Char.ofNat 101, Char.ofNat 101, Char.ofNat 100] : List Char), seed_hex := s, testnet := g.testnet,
                     account := g.account, interval := (g.a, g.b), paranoia := g.paranoia, file := g.file }
  -- "from-entropy-hex"
  | .fromEntropy e pw => { command := ([Char.ofNat 102, Char.ofNat 114, Char.ofNat 111, Char.ofNat 109, Char.ofNat 45, Char.ofNat 101, Char.ofNat 110, Char.ofNat 116, Char.ofNat 114, Char.ofNat 111, Char.ofNat 112, Char.ofNat 121, Char.ofNat 45, Char.ofNat 104, Char.ofNat 101, Char.ofNat 120] : List Char), entropy_hex := e, password := pw, testnet := g.testnet,
                           account := g.account, interval := (g.a, g.b), paranoia := g.paranoia, file := g.file }

/-- `main()` after `parse_args`: constructor dispatch, `generate`, optional `paranoia_mode`, output route — the
translated function is the tail of the model's `Cli.run` for every accepted command line -/
theorem main_eq (P : Prims Pt) (os : Nat → Bytes) (fs : FsClass) (argv : List (List Char)) (g : Globals) (cmd : Cmd)
    (h : parseArgs fs argv = some (g, some cmd)) :
    run P os fs argv = CodeObj3.main_body P os (nsOf g cmd) := by
  -- the conjuncts of `constructors_eq` used below: 3 `from_bip39_seed_hex`, 4 `from_mnemonic`, 5 `from_entropy_hex`,
  -- 6 `from_extended_key`; each depends on its own arguments only, the others are dummies
  have hc := fun sd m pw e k =>
    TrWallet.constructors_eq P ⟨default, false, none, none⟩ [] sd m pw e k [] g.testnet
  unfold run CodeObj3.main_body
  rw [h]
  cases cmd <;>
    simp +decide only [nsOf, (report_eq P _ g.account g.a g.b).2.2, paranoia_eq, ↓reduceIte,
      fun sd => (hc sd [] [] [] []).2.2.1, fun m pw => (hc [] m pw [] []).2.2.2.1,
      fun pw e => (hc [] [] pw e []).2.2.2.2.1, fun k => (hc [] [] [] [] k).2.2.2.2.2]
  all_goals
    generalize hw : construct P os g _ = w
    rw [construct] at hw
    rw [hw]
    cases w <;> rfl

end BtcHd.TrPaper
