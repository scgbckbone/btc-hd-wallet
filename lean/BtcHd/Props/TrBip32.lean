/-
Translated Python (`BtcHd.CodeObj`, generated from /repo's `bip32.py` by harness/translate_obj.py) = hand-written model
(`Model/Bip32.lean`), for every node, index, path and EVERY bundle of primitives: the object layer of C01, C02, C07,
C18 (and of everything built on derivation).  What the translator maps by table — the `parent` reference as the stored
parent fingerprint, `PrivateKey` / `PublicKey` objects as scalar / point, the `except NameError` branches — is stated in
the header of harness/translate_obj.py and is its trusted base.
-/
import BtcHd.Generated.CodeObj
import BtcHd.Props.TrBase58
import BtcHd.Lemmas.Bip32

namespace BtcHd.TrBip32
open BtcHd.Translated
open BtcHd Bip32 Keys

variable {Pt : Type}

private theorem i2be (n len : Nat) : Code.int_to_big_endian n len = toBytesBE len n := (int_helpers_eq [] n len).2.2
private theorem be2i (b : Bytes) : Code.big_endian_to_int b = beToNat b := rfl

theorem private_key_eq (P : Prims Pt) (nd : Node) : CodeObj.prv_private_key P nd = prvKey P nd := by
  -- `key[0] == 0` on a non-empty list is `head? = some 0`
  have hc : (nd.key.length = 33 ∧ (nd.key[0]!).toNat = 0) ↔ (nd.key.length = 33 ∧ nd.key.head? = some 0) := by
    cases nd.key with
    | nil => simp
    | cons a t => simp [← UInt8.toNat_inj]
  unfold CodeObj.prv_private_key prvKey
  simp only [hc]

/-- `public_key` of either class (dynamic dispatch on the class) -/
theorem public_key_eq (P : Prims Pt) (nd : Node) : CodeObj.node_public_key P nd = pubKey P nd := by
  unfold CodeObj.node_public_key pubKey CodeObj.prv_public_key CodeObj.pub_public_key
  rw [private_key_eq]
  split
  · cases prvKey P nd <;> rfl
  · rfl

theorem fingerprint_eq (P : Prims Pt) (nd : Node) : CodeObj.pub_fingerprint P nd = fingerprint P nd := by
  unfold CodeObj.pub_fingerprint fingerprint
  rw [public_key_eq]
  cases pubKey P nd <;> rfl

theorem parent_fingerprint_eq (nd : Node) : CodeObj.pub_parent_fingerprint nd = parentFingerprint nd := by
  unfold CodeObj.pub_parent_fingerprint parentFingerprint
  cases nd.hasParent <;> rfl

theorem predicates_eq (nd : Node) :
    CodeObj.pub_is_master nd = isMaster nd ∧ CodeObj.pub_is_root nd = !nd.hasParent ∧
      CodeObj.pub_is_hardened nd = decide (nd.index ≥ 2 ^ 31) := by
  refine ⟨?_, ?_, rfl⟩
  · unfold CodeObj.pub_is_master isMaster
    cases nd.hasParent <;> simp
  · unfold CodeObj.pub_is_root
    cases nd.hasParent <;> rfl

/-- `pub_version` / `prv_version`: the literals of the class bodies are the extracted constants of the model -/
theorem versions_eq (nd : Node) :
    CodeObj.pub_pub_version nd = pubVersion nd ∧ CodeObj.prv_prv_version nd = prvVersion nd :=
  ⟨rfl, rfl⟩

/-- `_serialize(key, version)`: the 78-byte layout -/
theorem serialize_eq (nd : Node) (key : Bytes) (v : Nat) :
    CodeObj.pub__serialize nd key v = serializeWith nd key v := by
  unfold CodeObj.pub__serialize serializeWith
  simp only [i2be, (predicates_eq nd).1, parent_fingerprint_eq]
  cases toBytesBE 4 v with
  | none => rfl
  | some v4 =>
    cases toBytesBE 1 nd.depth with
    | none => rfl
    | some d1 => cases isMaster nd <;> cases toBytesBE 4 nd.index <;> rfl

theorem serialize_public_eq (P : Prims Pt) (nd : Node) (v : Option Nat) :
    CodeObj.pub_serialize_public P nd v = serializePublic P nd v := by
  unfold CodeObj.pub_serialize_public serializePublic
  rw [public_key_eq, (versions_eq nd).1]
  simp only [serialize_eq]
  rfl

/-- `serialize_private(version)` (a method of `PrvKeyNode` only) -/
theorem serialize_private_eq (P : Prims Pt) (nd : Node) (v : Option Nat) (h : nd.isPrv = true) :
    CodeObj.prv_serialize_private P nd v = serializePrivate P nd v := by
  unfold CodeObj.prv_serialize_private serializePrivate
  rw [private_key_eq, (versions_eq nd).2, if_pos h]
  simp only [serialize_eq]
  rfl

/-- `extended_public_key(version)` / `extended_private_key(version)`: Base58Check of the serialisation (the translated
`encode_base58_checksum`, already proved equal to the model's encoder) -/
theorem extended_keys_eq (P : Prims Pt) (nd : Node) (v : Option Nat) :
    CodeObj.pub_extended_public_key P nd v = extendedPublicKey P nd v ∧
      (nd.isPrv = true → CodeObj.prv_extended_private_key P nd v = extendedPrivateKey P nd v) := by
  refine ⟨?_, fun h => ?_⟩
  · unfold CodeObj.pub_extended_public_key extendedPublicKey
    rw [serialize_public_eq]
    cases serializePublic P nd v <;> simp [encode_base58_checksum_eq]
  · unfold CodeObj.prv_extended_private_key extendedPrivateKey
    rw [serialize_private_eq P nd v h]
    cases serializePrivate P nd v <;> simp [encode_base58_checksum_eq]

theorem master_key_eq (P : Prims Pt) (seed : Bytes) (t : Bool) :
    CodeObj.prv_master_key P true seed t = masterKey P seed t := by
  unfold CodeObj.prv_master_key masterKey
  rw [show ([66, 105, 116, 99, 111, 105, 110, 32, 115, 101, 101, 100] : Bytes) = Generated.masterKeyHmacKey from rfl]
  generalize P.hmac512 Generated.masterKeyHmacKey seed = I
  by_cases h0 : beToNat (I.take 32) = 0
  · simp only [be2i, h0, ↓reduceIte]; rfl
  · by_cases hn : beToNat (I.take 32) ≥ P.curve.n <;> simp only [be2i, h0, hn, ↓reduceIte] <;> rfl

/-- `PrvKeyNode.ckd`: the translated method is the model's CKDpriv, for every node of that class, every index and
every bundle of primitives (hence every PRF output) -/
theorem prv_ckd_eq (P : Prims Pt) (nd : Node) (i : Nat) (h : nd.isPrv = true) :
    CodeObj.prv_ckd P nd i = ckdPrv P nd i := by
  unfold CodeObj.prv_ckd ckdPrv
  rw [private_key_eq, public_key_eq, fingerprint_eq, fingerprint, pubKey, if_pos h, hardened_eq, i2be]
  -- the two optional values first: the translated `do` block is large, and smaller once they are known
  cases hk : prvKey P nd with
  | none => simp only [Option.bind_eq_bind, Option.map_none, Option.bind_none, ite_self]
  | some k =>
    -- the Python adds `big_endian_to_int(bytes(self.private_key))`
    have hkb : beToNat (privBytes k) = k := BeFixed.beToNat_beFixed (prvKey_lt hk)
    cases toBytesBE 4 i with
    | none => simp only [Option.bind_eq_bind, Option.map_some, Option.bind_some, Option.bind_none, ite_self]
    | some idx4 =>
      simp only [Option.bind_eq_bind, Option.map_some, Option.bind_some, Option.bind_none, be2i, hkb, i2be]
      -- both sides now test `IL ≥ n`, then `(IL + k) mod n = 0`, then write the child key on 32 bytes; the translation
      -- branches on the index once at the top, the model inside the HMAC input
      by_cases hi : i ≥ 2 ^ 31
      · rw [if_pos hi, if_pos hi, Option.map_eq_bind]; rfl
      · rw [if_neg hi, if_neg hi, Option.map_eq_bind]; rfl

/-- `PubKeyNode.ckd`: the translated method is the model's CKDpub (hardened index refused, IL ≥ n refused, the point
at infinity refused), for every node of that class -/
theorem pub_ckd_eq (P : Prims Pt) (nd : Node) (i : Nat) (h : nd.isPrv = false) :
    CodeObj.pub_ckd P nd i = ckdPub P nd i := by
  have hp : ¬ nd.isPrv = true := by rw [h]; exact Bool.false_ne_true
  unfold CodeObj.pub_ckd ckdPub
  rw [public_key_eq, fingerprint_eq, fingerprint, pubKey, if_neg hp, hardened_eq, i2be]
  -- once the index bytes and the parent point are known, the two sides are the same ladder of tests
  cases toBytesBE 4 i with
  | none => simp only [Option.bind_eq_bind, Option.bind_none, ite_self]
  | some idx4 =>
    cases P.curve.parse nd.key with
    | none =>
      simp only [Option.bind_eq_bind, Option.bind_some, Option.bind_none, Option.map_none, ite_self, be2i]
    | some K =>
      -- without this step `rfl` is left to the kernel on the whole `do` block
      simp only [Option.bind_eq_bind, Option.bind_some, Option.bind_none, Option.map_some, be2i]
      rfl

/-- `node.ckd(index)` with the class deciding which method runs -/
theorem node_ckd_eq (P : Prims Pt) (nd : Node) (i : Nat) : CodeObj.node_ckd P nd i = ckd P nd i := by
  unfold CodeObj.node_ckd ckd
  cases h : nd.isPrv
  · simp [pub_ckd_eq P nd i h]
  · simp [prv_ckd_eq P nd i h]

/-- `derive_path(index_list)`: the `for` loop over the index list is the model's recursion -/
theorem derive_path_eq (P : Prims Pt) (nd : Node) (is : List Nat) :
    CodeObj.pub_derive_path P nd is = derivePath P nd is := by
  unfold CodeObj.pub_derive_path
  simp only [node_ckd_eq]
  induction is generalizing nd with
  | nil => rfl
  | cons i is ih =>
    simp only [List.forIn_cons, derivePath]
    cases ckd P nd i with
    | none => rfl
    | some c => simpa using ih c

/-- `generate_children(interval)`: `[self.ckd(i) for i in range(*interval)]` -/
theorem generate_children_eq (P : Prims Pt) (nd : Node) (a b : Nat) :
    CodeObj.pub_generate_children P nd (a, b) = generateChildren P nd a b := by
  unfold CodeObj.pub_generate_children generateChildren
  simp only [node_ckd_eq]

/-- `_parse(stream)`: field by field with `BytesIO.read` short-read semantics; `parse(str)` / `parse(bytes)` -/
theorem parse_eq (P : Prims Pt) (isPrv t : Bool) (bs : Bytes) (s : List Char) :
    (CodeObj.pub__parse isPrv bs t).1 = parseBytes isPrv t bs ∧
      CodeObj.pub_parse_bytes P isPrv bs t = some (parseBytes isPrv t bs) ∧
      CodeObj.pub_parse_str P isPrv s t = parseStr P isPrv t s := by
  refine ⟨rfl, rfl, ?_⟩
  unfold CodeObj.pub_parse_str parseStr
  simp only [decode_base58_checksum_eq]
  cases Base58.decodeCheck P.hash256 s <;> rfl

end BtcHd.TrBip32
