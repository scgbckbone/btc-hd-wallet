/-
C05 — addresses are the standard encodings; HASH160 = RIPEMD160 ∘ SHA256 with the
Merkle–Damgård padding of RIPEMD-160.

Each of the five address kinds is first shown to BE the encoding of its payload (`*_encoding`);
that it decodes to the payload is then the round trip of the encoding (C10, C11).  The RIPEMD-160
part speaks of `padded data` (`data ‖ 80 ‖ 00…00 ‖ 8·len as 8 little-endian bytes`, the padded
message of the specification) and `out s` (the five chaining words, each as 4 little-endian
bytes), both defined with their lemmas in `Lemmas/Ripemd.lean`.

The SHA-256, the double SHA-256 and the curve are parameters (`P : Prims Pt`); the only facts
used about them are the stated hypotheses (`sha256` returns 32 bytes, the compressed SEC
encoding of the key at hand has 33 bytes).
-/
import BtcHd.Model.Wallet
import BtcHd.Lemmas.Ripemd
import BtcHd.Lemmas.Basics
import BtcHd.Lemmas.Bip32
import BtcHd.Lemmas.XKey
import BtcHd.Lemmas.ToyNodes
import BtcHd.Props.C10
import BtcHd.Props.C11
import BtcHd.Props.C19

namespace BtcHd.C05
open BtcHd Keys Bip32 Wallet Script RipemdL BeFixed

variable {Pt : Type}

/-- the version bytes and Bech32 prefixes in the source are the Bitcoin ones: `00`/`6f` for
P2PKH, `05`/`c4` for P2SH, `bc`/`tb` for segwit (mainnet / testnet) -/
theorem prefixes :
    Generated.p2pkhMain = 0x00 ∧ Generated.p2pkhTest = 0x6f ∧ Generated.p2shMain = 0x05 ∧
    Generated.p2shTest = 0xc4 ∧ Generated.hrpMain = ['b', 'c'] ∧ Generated.hrpTest = ['t', 'b'] := by
  decide +kernel

/-- the double SHA-256 used for Base58Check checksums is at least 4 bytes long as soon as SHA-256
returns 32 bytes -/
theorem hash256_length (P : Prims Pt) (hsha : ∀ x, (P.sha256 x).length = 32) (x : Bytes) :
    (P.hash256 x).length = 32 ∧ 4 ≤ (P.hash256 x).length := by
  have : (P.hash256 x).length = 32 := hsha _
  omega

/-- HASH160 is RIPEMD-160 of SHA-256, for input of every length -/
theorem hash160_def (P : Prims Pt) (x : Bytes) : hash160 P x = Ripemd.ripemd160 (P.sha256 x) := rfl

theorem hash160_length (P : Prims Pt) (x : Bytes) : (hash160 P x).length = 20 :=
  Bip32.hash160_length P x

/-- the 1-of-1 multisig witness script is `OP_1 <33-byte key> OP_1 OP_CHECKMULTISIG` -/
theorem witness_script_template (P : Prims Pt) (K : Pt) (hsec : (P.curve.sec true K).length = 33) :
    rawSerialize (witnessScript P K) = some ([0x51, 0x21] ++ P.curve.sec true K ++ [0x51, 0xae]) := by
  simp [witnessScript, rawSerialize, ScriptLemmas.serCmd_op, ScriptLemmas.serCmd_data_small, hsec]

example : (Toy.prims.curve.sec true 3).length = 33 := Toy.laws.sec_len 3 (by decide)

/-- the four scriptPubKey builders serialise to the standard templates:
`76 a9 14 <h160> 88 ac`, `a9 14 <h160> 87`, `00 14 <h160>`, `00 20 <h256>` -/
theorem script_templates (P : Prims Pt) (hsha : ∀ x, (P.sha256 x).length = 32) (x y : Bytes) :
    rawSerialize (p2pkhScript (hash160 P x)) = some ([0x76, 0xa9, 0x14] ++ hash160 P x ++ [0x88, 0xac]) ∧
    rawSerialize (p2shScript (hash160 P x)) = some ([0xa9, 0x14] ++ hash160 P x ++ [0x87]) ∧
    rawSerialize (p2wpkhScript (hash160 P x)) = some ([0x00, 0x14] ++ hash160 P x) ∧
    rawSerialize (p2wshScript (P.sha256 y)) = some ([0x00, 0x20] ++ P.sha256 y) :=
  ⟨C19.p2pkh_template (hash160_length P x), C19.p2sh_template (hash160_length P x),
    C19.p2wpkh_template (hash160_length P x), C19.p2wsh_template (hsha y)⟩

private theorem hrp_eq (t : Bool) :
    (if t then Generated.hrpTest else Generated.hrpMain) = (if t then "tb" else "bc").toList := by
  cases t <;> decide +kernel

section
variable (P : Prims Pt) (t : Bool) {nd : Node} {K : Pt} (hK : pubKey P nd = some K)
include hK

theorem p2pkh_encoding :
    p2pkhAddress P t nd = some (Base58.encodeCheck P.hash256
      ([if t then 0x6f else 0x00] ++ hash160 P (P.curve.sec true K))) := by
  rw [p2pkhAddress, hK]; rfl

theorem p2sh_p2wpkh_encoding :
    p2shP2wpkhAddress P t nd = some (Base58.encodeCheck P.hash256
      ([if t then 0xc4 else 0x05] ++ hash160 P ([0x00, 0x14] ++ hash160 P (P.curve.sec true K)))) := by
  rw [p2shP2wpkhAddress, hK, Option.bind_some, h160, C19.p2wpkh_template (hash160_length P _)]; rfl

theorem p2sh_p2wsh_encoding (hsha : ∀ x, (P.sha256 x).length = 32)
    (hsec : (P.curve.sec true K).length = 33) :
    p2shP2wshAddress P t nd = some (Base58.encodeCheck P.hash256
      ([if t then 0xc4 else 0x05] ++
        hash160 P ([0x00, 0x20] ++ P.sha256 ([0x51, 0x21] ++ P.curve.sec true K ++ [0x51, 0xae])))) := by
  rw [p2shP2wshAddress, hK, Option.bind_some, witness_script_template P K hsec, Option.bind_some,
    C19.p2wsh_template (hsha _)]; rfl

theorem p2wpkh_encoding :
    p2wpkhAddress P t nd =
      Bech32.encode (if t then "tb" else "bc").toList 0 (hash160 P (P.curve.sec true K)) := by
  rw [p2wpkhAddress, hK, Option.bind_some, segwitOf, hrp_eq]; rfl

theorem p2wsh_encoding (hsec : (P.curve.sec true K).length = 33) :
    p2wshAddress P t nd = Bech32.encode (if t then "tb" else "bc").toList 0
      (P.sha256 ([0x51, 0x21] ++ P.curve.sec true K ++ [0x51, 0xae])) := by
  rw [p2wshAddress, hK, Option.bind_some, witness_script_template P K hsec, Option.bind_some,
    segwitOf, hrp_eq]

end

/-- each address is literally the standard encoding of its payload: Base58Check of
`version ‖ HASH160(…)`, or the segwit (BIP 173) encoding of witness version 0 with the hash as
program — so whatever a decoder inverting these encodings returns is that payload -/
theorem addresses_are_encodings (P : Prims Pt) (hsha : ∀ x, (P.sha256 x).length = 32) (t : Bool)
    (nd : Node) (K : Pt) (hK : pubKey P nd = some K) (hsec : (P.curve.sec true K).length = 33) :
    let sec := P.curve.sec true K
    let ws := [0x51, 0x21] ++ sec ++ [0x51, 0xae]
    let hrp := (if t then "tb" else "bc").toList
    p2pkhAddress P t nd =
      some (Base58.encodeCheck P.hash256 ([if t then 0x6f else 0x00] ++ hash160 P sec)) ∧
    p2shP2wpkhAddress P t nd =
      some (Base58.encodeCheck P.hash256
        ([if t then 0xc4 else 0x05] ++ hash160 P ([0x00, 0x14] ++ hash160 P sec))) ∧
    p2shP2wshAddress P t nd =
      some (Base58.encodeCheck P.hash256
        ([if t then 0xc4 else 0x05] ++ hash160 P ([0x00, 0x20] ++ P.sha256 ws))) ∧
    p2wpkhAddress P t nd = Bech32.encode hrp 0 (hash160 P sec) ∧
    p2wshAddress P t nd = Bech32.encode hrp 0 (P.sha256 ws) :=
  ⟨p2pkh_encoding P t hK, p2sh_p2wpkh_encoding P t hK, p2sh_p2wsh_encoding P t hK hsha hsec,
    p2wpkh_encoding P t hK, p2wsh_encoding P t hK hsec⟩

private theorem b58_decodes (P : Prims Pt) (hsha : ∀ x, (P.sha256 x).length = 32) (p : Bytes) :
    Base58.decodeCheck P.hash256 (Base58.encodeCheck P.hash256 p) = some p :=
  C10.decodeCheck_encodeCheck _ (fun x => (hash256_length P hsha x).2) p

private theorem legal_v0 (t : Bool) {prog : Bytes} (h : prog.length = 20 ∨ prog.length = 32) :
    C11.Legal (if t then "tb" else "bc").toList 0 prog := by
  have hh : ∀ t : Bool, (if t then Generated.hrpTest else Generated.hrpMain) ≠ [] ∧
      (∀ c ∈ if t then Generated.hrpTest else Generated.hrpMain,
        33 ≤ c.toNat ∧ c.toNat ≤ 126 ∧ Bech32.isUpperAscii c = false) ∧
      (if t then Generated.hrpTest else Generated.hrpMain).length = 2 := by decide +kernel
  obtain ⟨h1, h2, h3⟩ := hh t
  rw [← hrp_eq]
  refine ⟨by omega, by omega, by omega, fun _ => h, h1, h2, by omega⟩

/-- `PublicKey.address(compressed, testnet, "p2pkh")` Base58Check-decodes to the version byte
`6f` / `00` followed by HASH160 of the SEC encoding (compressed or uncompressed as requested) -/
theorem pubP2pkh_decodes (P : Prims Pt) (hsha : ∀ x, (P.sha256 x).length = 32) (K : Pt)
    (compressed t : Bool) :
    Base58.decodeCheck P.hash256 (pubP2pkh P K compressed t) =
      some ([if t then 0x6f else 0x00] ++ hash160 P (P.curve.sec compressed K)) :=
  b58_decodes P hsha _

/-- the P2PKH address of a node exists and Base58Check-decodes to `6f` / `00` followed by
HASH160 of the compressed public key -/
theorem p2pkh_decodes (P : Prims Pt) (hsha : ∀ x, (P.sha256 x).length = 32) (t : Bool) (nd : Node)
    (K : Pt) (hK : pubKey P nd = some K) :
    ∃ a, p2pkhAddress P t nd = some a ∧
      Base58.decodeCheck P.hash256 a = some ([if t then 0x6f else 0x00] ++ hash160 P (P.curve.sec true K)) :=
  ⟨_, p2pkh_encoding P t hK, b58_decodes P hsha _⟩

/-- the P2SH-P2WPKH address exists and Base58Check-decodes to `c4` / `05` followed by HASH160 of
the redeem script `00 14 <HASH160 of the compressed key>` -/
theorem p2sh_p2wpkh_decodes (P : Prims Pt) (hsha : ∀ x, (P.sha256 x).length = 32) (t : Bool)
    (nd : Node) (K : Pt) (hK : pubKey P nd = some K) :
    ∃ a, p2shP2wpkhAddress P t nd = some a ∧
      Base58.decodeCheck P.hash256 a =
        some ([if t then 0xc4 else 0x05] ++
          hash160 P ([0x00, 0x14] ++ hash160 P (P.curve.sec true K))) :=
  ⟨_, p2sh_p2wpkh_encoding P t hK, b58_decodes P hsha _⟩

/-- the P2SH-P2WSH address exists and Base58Check-decodes to `c4` / `05` followed by HASH160 of
the redeem script `00 20 <SHA-256 of the witness script 51 21 <key> 51 ae>` -/
theorem p2sh_p2wsh_decodes (P : Prims Pt) (hsha : ∀ x, (P.sha256 x).length = 32) (t : Bool)
    (nd : Node) (K : Pt) (hK : pubKey P nd = some K) (hsec : (P.curve.sec true K).length = 33) :
    ∃ a, p2shP2wshAddress P t nd = some a ∧
      Base58.decodeCheck P.hash256 a =
        some ([if t then 0xc4 else 0x05] ++
          hash160 P ([0x00, 0x20] ++ P.sha256 ([0x51, 0x21] ++ P.curve.sec true K ++ [0x51, 0xae]))) :=
  ⟨_, p2sh_p2wsh_encoding P t hK hsha hsec, b58_decodes P hsha _⟩

/-- the P2WPKH address exists and decodes, under the prefix `tb` / `bc`, to witness version 0 and
the 20-byte program HASH160 of the compressed public key -/
theorem p2wpkh_decodes (P : Prims Pt) (t : Bool) (nd : Node) (K : Pt) (hK : pubKey P nd = some K) :
    ∃ a, p2wpkhAddress P t nd = some a ∧
      Bech32.decode (if t then "tb" else "bc").toList a =
        some (0, (hash160 P (P.curve.sec true K)).map (·.toNat)) :=
  p2wpkh_encoding P t hK ▸ C11.encode_decode (legal_v0 t (Or.inl (hash160_length P _)))

/-- the P2WSH address exists and decodes, under the prefix `tb` / `bc`, to witness version 0 and
the 32-byte program SHA-256 of the witness script `51 21 <compressed key> 51 ae` -/
theorem p2wsh_decodes (P : Prims Pt) (hsha : ∀ x, (P.sha256 x).length = 32) (t : Bool) (nd : Node)
    (K : Pt) (hK : pubKey P nd = some K) (hsec : (P.curve.sec true K).length = 33) :
    ∃ a, p2wshAddress P t nd = some a ∧
      Bech32.decode (if t then "tb" else "bc").toList a =
        some (0, (P.sha256 ([0x51, 0x21] ++ P.curve.sec true K ++ [0x51, 0xae])).map (·.toNat)) :=
  p2wsh_encoding P t hK hsec ▸ C11.encode_decode (legal_v0 t (Or.inr (hsha _)))

/-- a node without a usable key (`public_key` raises) has none of the five addresses -/
theorem no_key_no_address (P : Prims Pt) (t : Bool) (nd : Node) (hK : pubKey P nd = none) :
    p2pkhAddress P t nd = none ∧ p2wpkhAddress P t nd = none ∧ p2shP2wpkhAddress P t nd = none ∧
    p2wshAddress P t nd = none ∧ p2shP2wshAddress P t nd = none := by
  simp [p2pkhAddress, p2wpkhAddress, p2shP2wpkhAddress, p2wshAddress, p2shP2wshAddress, hK]

/-- for every well-formed node over a lawful curve (either network) all five addresses exist and
decode to the expected version / witness version and hash -/
theorem addresses_of_wf (P : Prims Pt) (hsha : ∀ x, (P.sha256 x).length = 32)
    (hC : CurveLaws P.curve) (t : Bool) (nd : Node) (hwf : nd.WF P) :
    ∃ K, pubKey P nd = some K ∧
      (∃ a, p2pkhAddress P t nd = some a ∧ Base58.decodeCheck P.hash256 a =
        some ([if t then 0x6f else 0x00] ++ hash160 P (P.curve.sec true K))) ∧
      (∃ a, p2wpkhAddress P t nd = some a ∧ Bech32.decode (if t then "tb" else "bc").toList a =
        some (0, (hash160 P (P.curve.sec true K)).map (·.toNat))) ∧
      (∃ a, p2shP2wpkhAddress P t nd = some a ∧ Base58.decodeCheck P.hash256 a =
        some ([if t then 0xc4 else 0x05] ++
          hash160 P ([0x00, 0x14] ++ hash160 P (P.curve.sec true K)))) ∧
      (∃ a, p2wshAddress P t nd = some a ∧ Bech32.decode (if t then "tb" else "bc").toList a =
        some (0, (P.sha256 ([0x51, 0x21] ++ P.curve.sec true K ++ [0x51, 0xae])).map (·.toNat))) ∧
      (∃ a, p2shP2wshAddress P t nd = some a ∧ Base58.decodeCheck P.hash256 a =
        some ([if t then 0xc4 else 0x05] ++
          hash160 P ([0x00, 0x20] ++ P.sha256 ([0x51, 0x21] ++ P.curve.sec true K ++ [0x51, 0xae])))) := by
  obtain ⟨K, hK, hsec, _⟩ := XKey.pubKey_wf hC hwf
  exact ⟨K, hK, p2pkh_decodes P hsha t nd K hK, p2wpkh_decodes P t nd K hK,
    p2sh_p2wpkh_decodes P hsha t nd K hK, p2wsh_decodes P hsha t nd K hK hsec,
    p2sh_p2wsh_decodes P hsha t nd K hK hsec⟩

/-- non-vacuity: the toy primitives satisfy every hypothesis used above, for a private and for a
public node -/
example : (∀ x, (Toy.prims.sha256 x).length = 32) ∧ CurveLaws Toy.prims.curve ∧
    Toy.prvNode.WF Toy.prims ∧ Toy.pubNode.WF Toy.prims ∧
    (∃ K, pubKey Toy.prims Toy.pubNode = some K ∧ (Toy.prims.curve.sec true K).length = 33) :=
  ⟨fun _ => by simp [Toy.prims], Toy.laws, Toy.prvNode_wf, Toy.pubNode_wf,
    (XKey.pubKey_wf Toy.laws Toy.pubNode_wf).imp fun _ h => ⟨h.1, h.2.1⟩⟩

/-- the number of zero bytes `(119 - len) & 63` is below 64, makes `len + 1 + pad + 8` a multiple
of 64, is the least such number, and is the residue of `119 - len` modulo 64 on integers -/
theorem padLen_spec (l : Nat) :
    (l + 1 + Ripemd.padLen l + 8) % 64 = 0 ∧ Ripemd.padLen l < 64 ∧
    (∀ p, (l + 1 + p + 8) % 64 = 0 → Ripemd.padLen l ≤ p) ∧
    ((119 : Int) - (l : Int)) % 64 = (Ripemd.padLen l : Int) :=
  ⟨padLen_total l, padLen_lt l, padLen_least l, padLen_int l⟩

/-- the padded message is a whole number of 64-byte blocks, at least one and at most
`len / 64 + 2` of them -/
theorem padded_length (data : Bytes) :
    (padded data).length % 64 = 0 ∧
    (padded data).length = data.length + 1 + Ripemd.padLen data.length + 8 ∧
    data.length / 64 + 1 ≤ (padded data).length / 64 ∧
    (padded data).length / 64 ≤ data.length / 64 + 2 := by
  have h := RipemdL.padded_length data
  have hlt := padLen_lt data.length
  have hmod := padLen_total data.length
  rw [← h] at hmod
  refine ⟨hmod, h, ?_, ?_⟩ <;> omega

/-- the padded message is `data ‖ 80 ‖ zeros ‖ bit length (64-bit little-endian)` and the bit
length is read back from the last 8 bytes whenever it fits 64 bits -/
theorem padded_shape (data : Bytes) :
    padded data = data ++ [0x80] ++ List.replicate (Ripemd.padLen data.length) 0 ++
      leFixed 8 (8 * data.length) ∧
    (8 * data.length < 2 ^ 64 → leToNat (lastN 8 (padded data)) = 8 * data.length) :=
  ⟨rfl, fun h => by
    rw [padded, Basics.lastN_append _ (leFixed_length 8 _), leToNat_leFixed (by omega)]⟩

/-- for data of EVERY length the two-phase loop of the code (full blocks of the data, then the
final blocks) is the one-pass Merkle–Damgård iteration of `compress` over the padded message,
started from the initial state, followed by the little-endian output of the five words -/
theorem ripemd_is_md (data : Bytes) :
    Ripemd.ripemd160 data =
      out (Ripemd.absorb ((padded data).length / 64) Ripemd.initState (padded data)) ∧
    Ripemd.ripemd160 data =
      out ((List.range ((padded data).length / 64)).foldl
        (fun st i => Ripemd.compress st (((padded data).drop (64 * i)).take 64)) Ripemd.initState) :=
  ⟨ripemd160_eq data, by rw [ripemd160_eq, absorb_eq_foldl]⟩

theorem absorb_append (m k : Nat) (s : Ripemd.State) (a b : Bytes) (h : a.length = 64 * m) :
    Ripemd.absorb (m + k) s (a ++ b) = Ripemd.absorb k (Ripemd.absorb m s a) b :=
  RipemdL.absorb_append m k s a b h

example : (List.replicate 128 (0 : UInt8)).length = 64 * 2 := List.length_replicate

/-- the digest is 20 bytes: each state word is written as its 4 little-endian bytes -/
theorem out_spec (s : Ripemd.State) :
    (out s).length = 20 ∧
    out s = Ripemd.u32LE s.h0 ++ Ripemd.u32LE s.h1 ++ Ripemd.u32LE s.h2 ++ Ripemd.u32LE s.h3 ++
      Ripemd.u32LE s.h4 ∧
    ∀ w : UInt32, Ripemd.u32LE w = leFixed 4 w.toNat ∧ leToNat (Ripemd.u32LE w) = w.toNat :=
  ⟨out_length s, by simp only [out, u32LE_eq],
    fun w => ⟨u32LE_eq w, leToNat_u32LE w⟩⟩

/-- the permutation ρ of the specification -/
def rho : List Nat := [7, 4, 13, 1, 10, 6, 15, 3, 12, 0, 9, 5, 2, 14, 11, 8]

/-- what is stated of the tables of `ripemd.py`: sizes, ranges, each 16-step group reads every
message word exactly once, the constants and the initial value are the published ones, and the
message-word schedules follow the specification's generating formulas (left line: identity, then
ρ applied repeatedly; right line: π(i) = 9i+5 mod 16, then ρ applied repeatedly).  Of the rotation
amounts `rmdRL` / `rmdRR` only the length and the range 5..15 are stated: they are not compared
with the specification's table. -/
theorem ripemd_tables :
    -- sizes
    Generated.rmdML.length = 80 ∧ Generated.rmdMR.length = 80 ∧ Generated.rmdRL.length = 80 ∧
    Generated.rmdRR.length = 80 ∧ Generated.rmdKL.length = 5 ∧ Generated.rmdKR.length = 5 ∧
    Generated.rmdInit.length = 5 ∧
    -- ranges
    (∀ x ∈ Generated.rmdML, x < 16) ∧ (∀ x ∈ Generated.rmdMR, x < 16) ∧
    (∀ r ∈ Generated.rmdRL, 5 ≤ r ∧ r ≤ 15) ∧ (∀ r ∈ Generated.rmdRR, 5 ≤ r ∧ r ≤ 15) ∧
    -- each group of 16 steps uses each of the 16 message words once
    (∀ j < 5, ((Generated.rmdML.drop (16 * j)).take 16).Perm (List.range 16)) ∧
    (∀ j < 5, ((Generated.rmdMR.drop (16 * j)).take 16).Perm (List.range 16)) ∧
    -- constants
    Generated.rmdKL = [0, 0x5a827999, 0x6ed9eba1, 0x8f1bbcdc, 0xa953fd4e] ∧
    Generated.rmdKR = [0x50a28be6, 0x5c4dd124, 0x6d703ef3, 0x7a6d76e9, 0] ∧
    Generated.rmdInit = [0x67452301, 0xefcdab89, 0x98badcfe, 0x10325476, 0xc3d2e1f0] ∧
    Ripemd.initState = ⟨0x67452301, 0xefcdab89, 0x98badcfe, 0x10325476, 0xc3d2e1f0⟩ ∧
    -- generating formulas
    (∀ i < 16, Ripemd.tbl Generated.rmdML i = i) ∧
    (∀ i < 16, Ripemd.tbl Generated.rmdMR i = (9 * i + 5) % 16) ∧
    (∀ j < 4, ∀ i < 16, Ripemd.tbl Generated.rmdML (16 * (j + 1) + i) =
      Ripemd.tbl rho (Ripemd.tbl Generated.rmdML (16 * j + i))) ∧
    (∀ j < 4, ∀ i < 16, Ripemd.tbl Generated.rmdMR (16 * (j + 1) + i) =
      Ripemd.tbl rho (Ripemd.tbl Generated.rmdMR (16 * j + i))) ∧
    rho.Perm (List.range 16) := by
  decide +kernel

/-- the 16 message words of a 64-byte block are the little-endian integers of its consecutive
4-byte groups, and `rol` is the 32-bit left rotation for every rotation amount that occurs
(the table entries and the constant 10) -/
theorem compress_inputs :
    (∀ blk : Bytes, blk.length = 64 → (Ripemd.wordsLE blk).length = 16 ∧
      ∀ i < 16, ((Ripemd.wordsLE blk).toArray.getD i 0).toNat = leToNat ((blk.drop (4 * i)).take 4)) ∧
    (∀ (x : UInt32) (r : Nat), r ∈ Generated.rmdRL ∨ r ∈ Generated.rmdRR ∨ r = 10 →
      (Ripemd.rol x r).toBitVec = x.toBitVec.rotateLeft r) := by
  refine ⟨fun blk hl => ⟨by rw [wordsLE_length, hl], fun i hi => ?_⟩, fun x r hr => ?_⟩
  · rw [← wordsLE_getD blk i (by omega)]
    simp
  · -- the two conjuncts of `ripemd_tables` about the rotation amounts (each between 5 and 15)
    obtain ⟨-, -, -, -, -, -, -, -, -, hL, hR, -⟩ := ripemd_tables
    have : 5 ≤ r ∧ r ≤ 15 := by
      rcases hr with h | h | h
      · exact hL r h
      · exact hR r h
      · omega
    exact rol_eq_rotateLeft x r (by omega) (by omega)

/-- the bytes of an ASCII string -/
def ascii (s : String) : Bytes := s.toList.map fun c => UInt8.ofNat c.toNat

/-- the model reproduces published RIPEMD-160 test vectors, including a message whose padding
spills into a second final block (56 bytes) and one with a full data block (80 bytes) -/
theorem ripemd_test_vectors :
    toHex (Ripemd.ripemd160 (ascii "")) = "9c1185a5c5e9fc54612808977ee8f548b2258d31".toList ∧
    toHex (Ripemd.ripemd160 (ascii "abc")) = "8eb208f7e05d987a9b044a8e98c6b087f15a0bfc".toList ∧
    toHex (Ripemd.ripemd160 (ascii "abcdbcdecdefdefgefghfghighijhijkijkljklmklmnlmnomnopnopq")) =
      "12a053384a9c0c88e405a06c27dcf49ada62eb2b".toList ∧
    toHex (Ripemd.ripemd160
        (ascii "12345678901234567890123456789012345678901234567890123456789012345678901234567890")) =
      "9b752e45573d4b39f4dbd3323cab82bf63326bfb".toList := by
  unfold ascii
  -- the kernel would evaluate `String.toList` of a literal through its UTF-8 bytes, slowly;
  -- unifying the literal with `String.ofList _` yields the character list at once
  repeat rw [String.toList_ofList]
  decide +kernel

end BtcHd.C05
