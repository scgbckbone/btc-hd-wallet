/-
Translated Python (`BtcHd.Code`, generated from /repo by harness/translate.py) = hand-written model:
`helper.py` `h160_to_p2pkh_address`, `h160_to_p2sh_address`, `h160_to_p2wpkh_address`, `h256_to_p2wsh_address`,
`keys.py` `PrivateKey.wif`, `script.py` `p2pkh_script`, `p2sh_script`, `p2wpkh_script`, `p2wsh_script` — the
encoding layer of C05 and the WIF payload of C09 (double SHA-256 a parameter on both sides).
-/
import BtcHd.Props.TrBase58
import BtcHd.Props.TrBech32
import BtcHd.Model.Wallet

namespace BtcHd.Translated
open BtcHd

variable {Pt : Type}

theorem p2pkh_eq (P : Prims Pt) (h160 : Bytes) (t : Bool) :
    Code.h160_to_p2pkh_address P.hash256 h160 t = Wallet.p2pkhOfH160 P h160 t := by
  unfold Code.h160_to_p2pkh_address Wallet.p2pkhOfH160
  simp only [Id.run_pure, encode_base58_checksum_eq]
  cases t <;> rfl

theorem p2sh_eq (P : Prims Pt) (h160 : Bytes) (t : Bool) :
    Code.h160_to_p2sh_address P.hash256 h160 t = Wallet.p2shOfH160 P h160 t := by
  unfold Code.h160_to_p2sh_address Wallet.p2shOfH160
  simp only [Id.run_pure, encode_base58_checksum_eq]
  cases t <;> rfl

theorem p2wpkh_eq (h160 : Bytes) (t : Bool) (wv : Nat) :
    Code.h160_to_p2wpkh_address h160 t wv =
      Bech32.encode (if t then Generated.hrpTest else Generated.hrpMain) wv h160 := by
  unfold Code.h160_to_p2wpkh_address
  simp only [encode_eq]
  cases t <;> rfl

theorem wif_eq (P : Prims Pt) (k : Nat) (c t : Bool) :
    Code.private_key_wif P.hash256 (Keys.privBytes k) c t = Keys.wif P k c t := by
  unfold Code.private_key_wif Keys.wif
  simp only [Id.run_pure, encode_base58_checksum_eq]
  cases c <;> cases t <;> rfl

theorem scripts_eq (h : Bytes) :
    Code.p2pkh_script h = Script.p2pkhScript h ∧ Code.p2sh_script h = Script.p2shScript h ∧
      Code.p2wpkh_script h = Script.p2wpkhScript h ∧ Code.p2wsh_script h = Script.p2wshScript h :=
  ⟨rfl, rfl, rfl, rfl⟩

theorem p2wsh_eq (h256 : Bytes) (t : Bool) (wv : Nat) :
    Code.h256_to_p2wsh_address h256 t wv =
      Bech32.encode (if t then Generated.hrpTest else Generated.hrpMain) wv h256 := by
  unfold Code.h256_to_p2wsh_address
  simp only [encode_eq]
  cases t <;> rfl

end BtcHd.Translated
