/-
C11 (part c) — Bech32 / Bech32m error detection at the level of the address
STRINGS users see.

`charDiff s s'` (`Lemmas/Bech32Subst.lean`) is the number of positions at which two strings differ.
`s` is an address produced by `encode hrp v prog`; `s'` is any string of the same length.  The
theorems say what `decode hrp s'` can return when `s'` differs from `s` in at most three / at most
four characters.  There is no assumption on WHERE the characters were substituted (prefix,
separator, witness-version character, program, checksum) nor on WHAT they were replaced with (any
Unicode character, including `1`, upper-case letters, characters outside the character set).

Proof idea: if `decode hrp s'` accepts, the decoder has already established that the lower-cased
`s'` is `hrp ++ "1" ++ dp'` with `dp'` over the character set, so the prefix and separator are
intact and the symbol strings of `s` and `s'` have the same length (≤ 71) and differ in at most
`charDiff s s'` positions (`Bech32.decode_subst_bridge`); then C11b's `verify_subst_le3` /
`verify_subst_le4` (BCH distance, kernel-checked over the constants of the source) apply.  That is
`subst_accepted`; the other theorems are its corollaries.
-/
import BtcHd.Props.C11b
import BtcHd.Lemmas.Bech32Subst

namespace BtcHd.C11
open BtcHd Bech32 Bch

/-- `charDiff` is the Hamming distance: the number of positions of the two strings, zipped, at
which the characters differ -/
theorem charDiff_spec (a b : List Char) :
    charDiff a b = ((List.zip a b).filter (fun p => p.1 != p.2)).length :=
  charDiff_eq_filter a b

/-- a string of the same length that `decode` accepts is the address itself up to letter case, or
differs from it in at least four characters; and if in exactly four, the witness version has
switched between 0 and non-zero -/
theorem subst_accepted {hrp : List Char} {v : Nat} {prog : Bytes} {s s' : List Char}
    {v' : Nat} {prog' : List Nat}
    (h : encode hrp v prog = some s) (hlen : s'.length = s.length)
    (hd : decode hrp s' = some (v', prog')) :
    s'.map toLowerAscii = s ∨ 4 ≤ charDiff s s' ∧ (charDiff s s' ≤ 4 → ¬(v = 0 ↔ v' = 0)) := by
  obtain ⟨xs, ys, hl, h71, hx, hy, hxv, hyv, hdc, hle⟩ := decode_subst_bridge h hlen hd
  rcases Nat.eq_zero_or_pos (diffCount xs ys) with hz | hpos
  · exact Or.inl (charDiff_eq_zero (by simpa using hlen.symm) (hdc ▸ hz)).symm
  · right
    have h3 : ¬ diffCount xs ys ≤ 3 := fun h3 => by
      have hn := verify_subst_le3 (hrp := hrp) (d := [])
        (by rw [List.nil_append, hxv]; exact Option.some_ne_none _) hl h71 hx hy hpos h3
      rw [List.nil_append, hyv] at hn
      cases hn
    refine ⟨by omega, fun h4 hiff => ?_⟩
    have hne := verify_subst_le4 (hrp := hrp) (d := []) (by rw [List.nil_append]; exact hxv) hl h71 hx hy
      hpos (by omega)
    rw [List.nil_append, hyv] at hne
    exact hne (by simp only [specFor, hiff])

/-- replacing at most three characters of an address (anywhere, by anything) gives a string that is
rejected — unless the new string is the same address written in upper case, which BIP 173 accepts
(possible only for an address with at most three letters) -/
theorem subst_le3_rejected {hrp : List Char} {v : Nat} {prog : Bytes} {s s' : List Char}
    (h : encode hrp v prog = some s) (hlen : s'.length = s.length) (h3 : charDiff s s' ≤ 3) :
    decode hrp s' = none ∨ s'.map toLowerAscii = s := by
  rcases hd : decode hrp s' with _ | ⟨v', prog'⟩
  · exact Or.inl rfl
  · exact Or.inr ((subst_accepted h hlen hd).resolve_right fun ⟨h4, _⟩ => by omega)

private def progEx : Bytes :=
  [0x75, 0x1e, 0x76, 0xe8, 0x19, 0x91, 0x96, 0xd4, 0x54, 0x94, 0x1c, 0x45, 0xd1, 0xb3, 0xa3, 0x23,
    0xf1, 0x43, 0x3b, 0xd6]

-- hypotheses of `subst_le3_rejected` with the first disjunct: the BIP 173 vector with one, two and
-- three characters replaced (checksum; program and witness-version character; separator, prefix
-- and a character outside the character set)
example :
    let s := "bc1qw508d6qejxtdg4y5r3zarvary0c5xw7kv8f3t4".toList
    let s1 := "bc1qw508d6qejxtdg4y5r3zarvary0c5xw7kv8f3t5".toList
    let s2 := "bc1pw508d6qejxtdg4y5r3zarvary0c5xw7kv8f3t4".toList
    let s2' := "bc1qw508d6qejxtdg4y5r3zarvary0c5xw7kv8f2s4".toList
    let s3 := "bc1qw508d7qejxtdg4y5r3zbrvary0c5xw7Kv8f3t4".toList
    let s3' := "tc1qw508d6qejxtdg4y1r3zarvary0c5xw7kv8f3tq".toList
    let s3'' := "bcqqw508d6qejxtdg4y5r3zarvary1c5xw7kv8f3t ".toList
    encode "bc".toList 0 progEx = some s ∧
    (s1.length = s.length ∧ charDiff s s1 = 1 ∧ decode "bc".toList s1 = none) ∧
    (s2.length = s.length ∧ charDiff s s2 = 1 ∧ decode "bc".toList s2 = none) ∧
    (s2'.length = s.length ∧ charDiff s s2' = 2 ∧ decode "bc".toList s2' = none) ∧
    (s3.length = s.length ∧ charDiff s s3 = 3 ∧ decode "bc".toList s3 = none) ∧
    (s3'.length = s.length ∧ charDiff s s3' = 3 ∧ decode "bc".toList s3' = none) ∧
    (s3''.length = s.length ∧ charDiff s s3'' = 3 ∧ decode "bc".toList s3'' = none) := by
  -- literals unpacked by a theorem, not by the UTF-8 decoder inside the kernel (see `C11.charset_is_bip173`)
  repeat rw [String.toList_ofList]
  decide +kernel

/-- the second disjunct of `subst_le3_rejected` is real: this address (prefix `2`, witness version 5,
program bytes 41, 84) has only two letters; writing both in upper case changes two characters and the
result is accepted (as the same address) -/
theorem case_only_substitution_accepted :
    let s := "219992qq66330".toList
    let s' := "219992QQ66330".toList
    encode ['2'] 5 [41, 84] = some s ∧ s'.length = s.length ∧ charDiff s s' = 2 ∧
      decode ['2'] s' = some (5, [41, 84]) ∧ s'.map toLowerAscii = s := by
  repeat rw [String.toList_ofList]
  decide +kernel

private theorem lower_ne {s s' : List Char} (h1 : 1 ≤ charDiff s s')
    (hlow : ∀ c ∈ s', isUpperAscii c = false) : s'.map toLowerAscii ≠ s := fun he => by
  rw [map_toLowerAscii_eq_self_iff.mpr hlow] at he
  rw [he, charDiff_self] at h1
  omega

/-- replacing one to three characters of an address by characters that are not upper-case letters
always gives a string that is rejected -/
theorem subst_le3_rejected_lower {hrp : List Char} {v : Nat} {prog : Bytes} {s s' : List Char}
    (h : encode hrp v prog = some s) (hlen : s'.length = s.length) (h1 : 1 ≤ charDiff s s')
    (h3 : charDiff s s' ≤ 3) (hlow : ∀ c ∈ s', isUpperAscii c = false) : decode hrp s' = none :=
  (subst_le3_rejected h hlen h3).resolve_right (lower_ne h1 hlow)

example :
    let s := "bc1qw508d6qejxtdg4y5r3zarvary0c5xw7kv8f3t4".toList
    let s' := "bc1qw508d6qejxtdg4y5r3zarvary0c5xw7kv8f2s4".toList
    encode "bc".toList 0 progEx = some s ∧ s'.length = s.length ∧ 1 ≤ charDiff s s' ∧
      charDiff s s' ≤ 3 ∧ ∀ c ∈ s', isUpperAscii c = false := by
  repeat rw [String.toList_ofList]
  decide +kernel

/-- replacing at most four characters of an address (anywhere, by anything) gives a string that is
rejected, or is the same address in upper case, or — only with exactly four replaced characters —
is accepted as an address whose witness version switched between 0 and non-zero (the one case the
two checksum constants of BIP 350 do not cover) -/
theorem subst_four {hrp : List Char} {v : Nat} {prog : Bytes} {s s' : List Char}
    (h : encode hrp v prog = some s) (hlen : s'.length = s.length) (h4 : charDiff s s' ≤ 4) :
    decode hrp s' = none ∨ s'.map toLowerAscii = s ∨
      ∃ v' prog', decode hrp s' = some (v', prog') ∧ charDiff s s' = 4 ∧
        ((v = 0 ∧ v' ≠ 0) ∨ (v ≠ 0 ∧ v' = 0)) := by
  rcases hd : decode hrp s' with _ | ⟨v', prog'⟩
  · exact Or.inl rfl
  · exact Or.inr ((subst_accepted h hlen hd).imp_right fun ⟨h4', hsw⟩ =>
      ⟨v', prog', rfl, by omega, by omega⟩)

/-- the third disjunct of `subst_four` is real (and the first two are covered by the examples
above): the all-zero 32-byte version-0 address and a version-1 address four characters away, both
produced by `encode` and accepted by `decode` -/
theorem subst_four_switch_witness :
    let s := "bc1qqqqqqqqqqqqqqqqqqqqqqqqqqqqqqqqqqqqqqqqqqqqqqqqqqqqqthqst8".toList
    let s' := "bc1pqqqqqqqqqqqqkqqqqqqqqlqqqqqqqqqqqqqqqqqqqeqqqqqqqqqqthqst8".toList
    let prog' : Bytes := [0, 0, 0, 0, 0, 0, 0, 11, 0, 0, 0, 0, 0, 124, 0, 0, 0, 0, 0, 0,
      0, 0, 0, 0, 0, 6, 64, 0, 0, 0, 0, 0]
    encode "bc".toList 0 (List.replicate 32 0) = some s ∧ s'.length = s.length ∧
      charDiff s s' = 4 ∧ decode "bc".toList s' = some (1, prog'.map (·.toNat)) ∧
      encode "bc".toList 1 prog' = some s' := by
  repeat rw [String.toList_ofList]
  decide +kernel

/-- replacing one to four characters of an address by characters that are not upper-case letters
gives a string that, if it is accepted at all, has switched between witness version 0 and a
non-zero version -/
theorem subst_le4_lower_switches {hrp : List Char} {v : Nat} {prog : Bytes} {s s' : List Char}
    {v' : Nat} {prog' : List Nat}
    (h : encode hrp v prog = some s) (hlen : s'.length = s.length) (h1 : 1 ≤ charDiff s s')
    (h4 : charDiff s s' ≤ 4) (hlow : ∀ c ∈ s', isUpperAscii c = false)
    (hd : decode hrp s' = some (v', prog')) : ¬(v = 0 ↔ v' = 0) :=
  (subst_accepted h hlen hd).elim (fun he => absurd he (lower_ne h1 hlow)) fun ⟨_, hsw⟩ => hsw h4

example :
    let s := "bc1qqqqqqqqqqqqqqqqqqqqqqqqqqqqqqqqqqqqqqqqqqqqqqqqqqqqqthqst8".toList
    let s' := "bc1pqqqqqqqqqqqqkqqqqqqqqlqqqqqqqqqqqqqqqqqqqeqqqqqqqqqqthqst8".toList
    encode "bc".toList 0 (List.replicate 32 0) = some s ∧ s'.length = s.length ∧
      1 ≤ charDiff s s' ∧ charDiff s s' ≤ 4 ∧ (∀ c ∈ s', isUpperAscii c = false) ∧
      (decode "bc".toList s').map (·.1) = some 1 := by
  repeat rw [String.toList_ofList]
  decide +kernel

/-- replacing one to four characters of an address by characters that are not upper-case letters
never gives an accepted address of the same witness version (so: never another version-0 address
from a version-0 one, and never an address of the same Taproot/future version) -/
theorem subst_le4_never_same_version {hrp : List Char} {v : Nat} {prog : Bytes} {s s' : List Char}
    (h : encode hrp v prog = some s) (hlen : s'.length = s.length) (h1 : 1 ≤ charDiff s s')
    (h4 : charDiff s s' ≤ 4) (hlow : ∀ c ∈ s', isUpperAscii c = false) (prog' : List Nat) :
    decode hrp s' ≠ some (v, prog') :=
  fun hd => subst_le4_lower_switches h hlen h1 h4 hlow hd Iff.rfl

/-- more generally, one to four such substitutions never turn a non-zero-version address into an
accepted address of any non-zero version, nor a version-0 address into another version-0 address -/
theorem subst_le4_never_same_class {hrp : List Char} {v : Nat} {prog : Bytes} {s s' : List Char}
    (h : encode hrp v prog = some s) (hlen : s'.length = s.length) (h1 : 1 ≤ charDiff s s')
    (h4 : charDiff s s' ≤ 4) (hlow : ∀ c ∈ s', isUpperAscii c = false) (v' : Nat) (prog' : List Nat)
    (hclass : v = 0 ↔ v' = 0) : decode hrp s' ≠ some (v', prog') :=
  fun hd => subst_le4_lower_switches h hlen h1 h4 hlow hd hclass

example :
    let s := "bc1qw508d6qejxtdg4y5r3zarvary0c5xw7kv8f3t4".toList
    let s' := "bc1qw508d6qejxtdg4y5r3zarvary0c5xw7kv0f2s5".toList
    encode "bc".toList 0 progEx = some s ∧ s'.length = s.length ∧ 1 ≤ charDiff s s' ∧
      charDiff s s' ≤ 4 ∧ ∀ c ∈ s', isUpperAscii c = false := by
  repeat rw [String.toList_ofList]
  decide +kernel

/-- a string accepted under prefix `hrp` starts, after lower-casing, with `hrp` and the separator;
so a string whose first `hrp.length + 1` characters differ from those of an address
(after lower-casing) is rejected whatever the rest looks like -/
theorem subst_prefix_rejected {hrp : List Char} {v : Nat} {prog : Bytes} {s s' : List Char}
    (h : encode hrp v prog = some s)
    (hp : (s'.map toLowerAscii).take (hrp.length + 1) ≠ s.take (hrp.length + 1)) :
    decode hrp s' = none := by
  rcases hd : decode hrp s' with _ | ⟨v', prog'⟩
  · rfl
  · obtain ⟨ys, ht, -⟩ := decode_some_symbols hd
    obtain ⟨xs, hs, -⟩ := encode_some_symbols h
    have e : ∀ l : List Char, (hrp ++ '1' :: l).take (hrp.length + 1) = hrp ++ ['1'] := by
      intro l
      rw [List.append_cons]
      exact List.take_left' (by simp)
    exact absurd (by rw [ht, hs, e, e]) hp

example :
    let s := "bc1qw508d6qejxtdg4y5r3zarvary0c5xw7kv8f3t4".toList
    let s' := "tb1qw508d6qejxtdg4y5r3zarvary0c5xw7kxpjzsx".toList
    encode "bc".toList 0 progEx = some s ∧
      (s'.map toLowerAscii).take ("bc".toList.length + 1) ≠ s.take ("bc".toList.length + 1) := by
  repeat rw [String.toList_ofList]
  decide +kernel

end BtcHd.C11
