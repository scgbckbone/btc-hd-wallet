/-
C02 — Public-only derivation agrees with private derivation on every normal path.

The curve is abstract; its group laws are the explicit hypotheses `GroupLaws`
(proved for the driver's secp256k1 in `Props/RealCurve.lean`: `real_groupLaws`).  The corner `IL = 0`
(reachable only by substituting the PRF) is excluded by hypothesis: there the
public side refuses while the private side returns the (valid) child.
-/
import BtcHd.Lemmas.Basics
import BtcHd.Lemmas.Bip32

namespace BtcHd.C02
open BtcHd Bip32 Keys BeFixed

variable {Pt : Type}

/-- what the theorems assume about the curve library and the PRF's output size -/
structure GroupLaws (P : Prims Pt) : Prop where
  n_pos : 1 < P.curve.n
  n_le : P.curve.n ≤ 2 ^ 256
  /-- `(a + b)·G = a·G + b·G` -/
  mulGen_add : ∀ a b, P.curve.mulGen ((a + b) % P.curve.n) = P.curve.add (P.curve.mulGen a) (P.curve.mulGen b)
  /-- `a·G = ∞ ↔ n ∣ a` -/
  mulGen_inf : ∀ a, P.curve.isInf (P.curve.mulGen a) = true ↔ P.curve.n ∣ a
  /-- parsing a compressed SEC encoding gives the point back -/
  parse_sec : ∀ pt, P.curve.isInf pt = false → P.curve.parse (P.curve.sec true pt) = some pt
  /-- HMAC-SHA512 returns 64 bytes -/
  hmac_len : ∀ key msg, (P.hmac512 key msg).length = 64

/-- dropping the private part of a node: same metadata, key := serP(k·G) -/
def neuter (P : Prims Pt) (nd : Node) : Option Node :=
  (prvKey P nd).map fun k => { nd with isPrv := false, key := P.curve.sec true (P.curve.mulGen k) }

/-- left HMAC half of a normal derivation step (the same bytes on both sides) -/
def IL (P : Prims Pt) (nd : Node) (k i : Nat) : Nat :=
  beToNat ((P.hmac512 nd.chainCode (P.curve.sec true (P.curve.mulGen k) ++ beFixed 4 i)).take 32)

theorem isInf_mulGen (P : Prims Pt) (L : GroupLaws P) {k : Nat} (hk : k < P.curve.n) :
    P.curve.isInf (P.curve.mulGen k) = true ↔ k = 0 := by
  rw [L.mulGen_inf]
  exact ⟨fun hd => Nat.eq_zero_of_dvd_of_lt hd hk, fun h => h ▸ Nat.dvd_zero _⟩

theorem mulGen_notInf (P : Prims Pt) (L : GroupLaws P) {k : Nat} (h1 : 1 ≤ k) (h2 : k < P.curve.n) :
    P.curve.isInf (P.curve.mulGen k) = false := by
  rw [← Bool.not_eq_true, isInf_mulGen P L h2]
  omega

theorem neuter_eq_some (P : Prims Pt) {nd : Node} {k : Nat} (hk : prvKey P nd = some k) :
    neuter P nd = some { nd with isPrv := false, key := P.curve.sec true (P.curve.mulGen k) } := by
  rw [neuter, hk]; rfl

/-- **CKDpub ∘ neuter = neuter ∘ CKDpriv** for every normal index: both fail or both
succeed with the same public key, chain code, depth, child number, parent
fingerprint and path. -/
theorem ckdPub_neuter (P : Prims Pt) (L : GroupLaws P) (nd : Node) (k i : Nat)
    (hk : prvKey P nd = some k) (hi : i < 2 ^ 31) (h0 : IL P nd k i ≠ 0) :
    (ckdPrv P nd i).bind (neuter P) = (neuter P nd).bind (ckdPub P · i) := by
  obtain ⟨hk1, hk2⟩ := prvKey_range hk
  have hdata : ckdPrvData P k i = P.curve.sec true (P.curve.mulGen k) ++ beFixed 4 i :=
    if_neg (by rw [hardened_eq]; omega)
  rw [ckdPrv_eq P nd i k hk (by omega) L.n_le, hdata, neuter_eq_some P hk, Option.bind_some, ckdPub_eq P _ hi]
  -- both sides now speak of the same PRF output `I`; the public side adds `IL·G` to the parsed `k·G`
  simp only [L.parse_sec _ (mulGen_notInf P L hk1 hk2), Option.bind_some]
  unfold IL at h0
  generalize hI : P.hmac512 nd.chainCode (P.curve.sec true (P.curve.mulGen k) ++ beFixed 4 i) = I at *
  have hlen : (I.take 32).length = 32 := by rw [List.length_take, ← hI, L.hmac_len]; rfl
  by_cases hge : P.curve.n ≤ beToNat (I.take 32)
  · rw [if_pos hge, mkPriv_eq_none.mpr (.inr (.inr hge))]; rfl
  · have hki : (beToNat (I.take 32) + k) % P.curve.n < P.curve.n := Nat.mod_lt _ (by omega)
    rw [if_neg hge, mkPriv_eq_some.mpr ⟨hlen, by omega, by omega, rfl⟩, Option.bind_some, ← L.mulGen_add]
    by_cases hz : (beToNat (I.take 32) + k) % P.curve.n = 0
    · rw [if_pos hz, if_pos ((isInf_mulGen P L hki).mpr hz)]; rfl
    · rw [if_neg hz, if_neg (by rw [isInf_mulGen P L hki]; exact hz), Option.bind_some,
        neuter_eq_some P (mkChild_prvKey P nd _ _ i _ (by omega) hki L.n_le)]
      rfl

/-- a hardened child can never be derived from public-only data: refused before
any primitive is evaluated, for every node -/
theorem ckdPub_hardened (P : Prims Pt) (nd : Node) (i : Nat) (hi : 2 ^ 31 ≤ i) : ckdPub P nd i = none :=
  ckdPub_of_hardened P nd hi

/-- a path containing a hardened index is refused on a public node -/
theorem derivePub_hardened (P : Prims Pt) (is : List Nat) (h : ∃ i ∈ is, 2 ^ 31 ≤ i) (nd : Node)
    (hp : nd.isPrv = false) : derivePath P nd is = none := by
  obtain ⟨i, hi, hbig⟩ := h
  exact Option.eq_none_iff_forall_ne_some.mpr fun c hc =>
    absurd (lt_of_derivePath_of_pub hp hc i hi) (Nat.not_lt.mpr hbig)

/-- **Paths**, in general: `ok nd is` is any side condition on a node and the indexes still to come that excludes
the `IL = 0` corner at the next step and passes to the child. -/
theorem derivePub_neuter_of (P : Prims Pt) (L : GroupLaws P) (ok : Node → List Nat → Prop)
    (hIL : ∀ nd i is k, ok nd (i :: is) → prvKey P nd = some k → IL P nd k i ≠ 0)
    (hchild : ∀ nd i is c, ok nd (i :: is) → ckdPrv P nd i = some c → ok c is)
    (is : List Nat) (his : ∀ i ∈ is, i < 2 ^ 31) (nd : Node) (k : Nat) (hp : nd.isPrv = true)
    (hk : prvKey P nd = some k) (hok : ok nd is) :
    (derivePath P nd is).bind (neuter P) = (neuter P nd).bind (derivePath P · is) := by
  induction is generalizing nd k with
  | nil => exact (Option.bind_fun_some _).symm
  | cons i is ih =>
    have hstep := ckdPub_neuter P L nd k i hk (his i (List.mem_cons_self ..)) (hIL nd i is k hok hk)
    rw [neuter_eq_some P hk, Option.bind_some] at hstep ⊢
    rw [derivePath, derivePath, ckd_eq_ckdPrv P hp, ckd_eq_ckdPub P rfl, ← hstep]
    cases hc : ckdPrv P nd i with
    | none => rfl
    | some c =>
      obtain ⟨hpc, kc, hkc⟩ := ckdPrv_prvKey P L.n_le hk hc
      exact ih (fun j hj => his j (List.mem_cons_of_mem _ hj)) c kc (hpc.trans hp) hkc (hchild nd i is c hok hc)

/-- **Paths**: along every sequence of normal indexes (any length), deriving
publicly from the neutered parent equals deriving privately and then neutering —
under the hypothesis that `IL ≠ 0` for EVERY node with a valid key and every index of the list
(not only for the steps taken; the path-wise form is `derivePub_neuter_of`, used by C14 with `NoZeroIL`). -/
theorem derivePub_neuter (P : Prims Pt) (L : GroupLaws P) (is : List Nat) (his : ∀ i ∈ is, i < 2 ^ 31)
    (nd : Node) (k : Nat) (hp : nd.isPrv = true) (hk : prvKey P nd = some k)
    (hIL : ∀ (nd' : Node) (k' i : Nat), prvKey P nd' = some k' → i ∈ is → IL P nd' k' i ≠ 0) :
    (derivePath P nd is).bind (neuter P) = (neuter P nd).bind (derivePath P · is) :=
  derivePub_neuter_of P L (fun _ js => ∀ nd' k' i, prvKey P nd' = some k' → i ∈ js → IL P nd' k' i ≠ 0)
    (fun nd i _ k h hk => h nd k i hk (List.mem_cons_self ..))
    (fun _ _ _ _ h _ nd' k' j hk' hj => h nd' k' j hk' (List.mem_cons_of_mem _ hj)) is his nd k hp hk hIL

/-- the `IL = 0` exclusion is about a single value of a 256-bit quantity (primitives on which it holds for every
node: `Toy.IL1` in `Lemmas/ToyGroup.lean`) -/
example (P : Prims Pt) (nd : Node) (k i : Nat) (h : IL P nd k i = 5) : IL P nd k i ≠ 0 := by omega


/-! ### `generate_children` over every interval shape that `range(*interval)` accepts -/

/-- **Bulk refusal.**  On a public node `generate_children` over ANY tuple `(a, b, step)` that contains a hardened index —
ascending, descending, strided, crossing `2^31` in either direction — is refused as a whole; so is one that contains a
negative index or has step 0. -/
theorem generateChildrenStep_pub_refused (P : Prims Pt) (nd : Node) (a b step : Int) (hp : nd.isPrv = false)
    (h : step = 0 ∨ ∃ i ∈ pyRange a b step, i < 0 ∨ (2 : Int) ^ 31 ≤ i) :
    generateChildrenStep P nd a b step = none := by
  unfold generateChildrenStep
  split
  · rfl
  · next hs =>
    obtain ⟨i, hi, hbad⟩ := h.resolve_left hs
    refine Basics.mapM_eq_none_iff.mpr ⟨i, hi, ?_⟩
    split
    · rfl
    · exact ckd_of_hardened P hp (by omega)

/-- with step 1 and a non-negative start the general form is the two-element form the reports use -/
theorem generateChildrenStep_one (P : Prims Pt) (nd : Node) (a b : Nat) :
    generateChildrenStep P nd a b 1 = generateChildren P nd a b := by
  have hr : pyRange a b 1 = (List.range' a (b - a)).map Int.ofNat := by
    have hc : (if (a : Int) < b then ((b : Int) - a + 1 - 1) / 1 |>.toNat else 0) = b - a := by
      split <;> omega
    simp only [pyRange, Int.one_pos, ↓reduceIte, hc, List.range'_eq_map_range, List.map_map]
    exact List.map_congr_left fun j _ => by simp
  rw [generateChildrenStep, if_neg Int.one_ne_zero, hr, List.mapM_map, generateChildren]
  rfl

example : pyRange 5 0 (-2) = [5, 3, 1] := by decide
example : pyRange (2 ^ 31 + 1) (2 ^ 31 - 3) (-1) = [2 ^ 31 + 1, 2 ^ 31, 2 ^ 31 - 1, 2 ^ 31 - 2] := by decide

end BtcHd.C02
