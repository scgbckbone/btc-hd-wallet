/-
C20 — the command line (`__main__.py`): every argument vector is rejected, answered with the
usage text, or answered with exactly what the library API returns (filtered in paranoia
mode); an existing file is never the target; accepted account / interval values and the
shape of the derived rows (known finding K2: the interval clause fails above 2^31).

The model (`Model/Cli.lean`) mirrors `main()` over a canonical argv grammar.  `Outcome.reject`
stands for "non-zero exit status, nothing on stdout, no file created", `Outcome.help` for "the usage
text on stdout, exit status 1, no wallet data, no file created".  The toy
`Prims` instance of `Lemmas/CliToy.lean` serves only the examples that show hypotheses to be
satisfiable.
-/
import BtcHd.Lemmas.Cli
import BtcHd.Lemmas.CliToy

namespace BtcHd.C20
open BtcHd Text Cli Wallet Bip32

variable {Pt : Type}

theorem cliAccountMax_eq : Generated.cliAccountMax = 2 ^ 31 - 1 := by decide

theorem cliAddressMax_eq : Generated.cliAddressMax = 2 ^ 32 - 1 := by decide

/-- `int(str(n)) == n` for the decimal text of a natural number -/
theorem pyInt_decimal (n : Nat) : pyInt (natToDec n) = some (n : Int) :=
  pyInt_natToDec n

/-- `int("-" + str(n+1)) == -(n+1)`: negative numbers are read, not refused, by `int` -/
theorem pyInt_neg (n : Nat) : pyInt ('-' :: natToDec (n + 1)) = some (-((n : Int) + 1)) := by
  rw [pyInt_neg_natToDec, Int.natCast_succ]

/-- `value_in_interval` accepts a value exactly when `int(value)` lies in `[0, max)` -/
theorem valueInInterval_spec {v : List Char} {max n : Nat} :
    valueInInterval v max = some n ↔ n < max ∧ pyInt v = some (n : Int) :=
  valueInInterval_eq_some

theorem accountIndex_spec {v : List Char} {n : Nat} (h : accountIndex v = some n) :
    n < 2 ^ 31 - 1 ∧ pyInt v = some (n : Int) :=
  valueInInterval_eq_some.mp h

theorem addressIndex_spec {v : List Char} {n : Nat} (h : addressIndex v = some n) :
    n < 2 ^ 32 - 1 ∧ pyInt v = some (n : Int) :=
  valueInInterval_eq_some.mp h

theorem accountIndex_decimal {n : Nat} (h : n < 2 ^ 31 - 1) : accountIndex (natToDec n) = some n :=
  valueInInterval_natToDec h

theorem addressIndex_decimal {n : Nat} (h : n < 2 ^ 32 - 1) : addressIndex (natToDec n) = some n :=
  valueInInterval_natToDec h

/-- negative account and address indexes are parsed and then refused by the range check -/
theorem negative_index_rejected (n : Nat) :
    accountIndex ('-' :: natToDec (n + 1)) = none ∧ addressIndex ('-' :: natToDec (n + 1)) = none :=
  ⟨valueInInterval_neg _ n, valueInInterval_neg _ n⟩

example : accountIndex "7".toList = some 7 := by decide +kernel
example : accountIndex "-1".toList = none := by decide +kernel
example : accountIndex "2147483646".toList = some 2147483646 := by decide +kernel
example : accountIndex "2147483647".toList = none := by decide +kernel
example : addressIndex "4294967295".toList = none := by decide +kernel

theorem extendedKeyArg_spec {v k : List Char} :
    extendedKeyArg v = some k ↔ v.length = 111 ∧ k = v :=
  ite_some_none_eq_some

theorem seedArg_spec {v k : List Char} : seedArg v = some k ↔ v.length = 128 ∧ k = v :=
  ite_some_none_eq_some

theorem entropyArg_spec {v k : List Char} :
    entropyArg v = some k ↔ v.length * 4 ∈ [128, 160, 192, 224, 256] ∧ k = v :=
  ite_some_none_eq_some

theorem mnemonicArg_spec {v m : List Char} :
    mnemonicArg v = some m ↔
      (splitOn ' ' v).length ∈ [12, 15, 18, 21, 24] ∧ m = strip v :=
  ite_some_none_eq_some

/-- `file_` accepts a path exactly when nothing exists there and the parent is writable -/
theorem fileArg_iff {c : FsClass} : fileArg c = true ↔ c = .absent := decide_eq_true_iff

example : fileArg .file = false ∧ fileArg .dir = false ∧ fileArg .noParent = false := by decide

/-! ### every run is rejected, answered with the usage text, or emits exactly what the API returns -/

/-- a run has one of three ends, and wallet data appears only in the third -/
theorem outcome_trichotomy (P : Prims Pt) (os : Nat → Bytes) (fs : FsClass)
    (argv : List (List Char)) :
    run P os fs argv = .reject ∨ run P os fs argv = .help ∨
      ∃ tgt r, run P os fs argv = .emit tgt r := by
  cases h : run P os fs argv with
  | reject => exact .inl rfl
  | help => exact .inr (.inl rfl)
  | emit t r => exact .inr (.inr ⟨t, r, rfl⟩)

/-- whatever is emitted is what `generate` returns for the wallet the chosen constructor builds
from the parsed arguments (account and interval as parsed), passed through `paranoia_mode`
exactly when `--paranoia` was given; the target is the file exactly when a file was requested -/
theorem accept_equals_api {P : Prims Pt} {os : Nat → Bytes} {fs : FsClass}
    {argv : List (List Char)} {tgt : Target} {r : Json} (h : run P os fs argv = .emit tgt r) :
    ∃ g cmd w data, parseArgs fs argv = some (g, some cmd) ∧ construct P os g cmd = some w ∧
      generate P w g.account g.a g.b = some data ∧
      (if g.paranoia then paranoia data = some r else r = data) ∧
      tgt = (if g.file then .file else .stdout) := by
  rw [run_eq] at h
  split at h
  · cases h
  · cases h
  · next g cmd hp =>
    split at h
    · cases h
    · next hr =>
      cases h
      obtain ⟨w, data, hw, hd, hr⟩ := report_eq_some_iff.mp hr
      exact ⟨g, cmd, w, data, hp, hw, hd, hr, rfl⟩

/-- the converse: constructor, `generate` and filter are the only steps of `main` after `parse_args` that can fail in
the model (writing the file is not modelled) -/
theorem api_success_emits {P : Prims Pt} {os : Nat → Bytes} {fs : FsClass}
    {argv : List (List Char)} {g : Globals} {cmd : Cmd} {w : Wallet} {data r : Json}
    (hp : parseArgs fs argv = some (g, some cmd)) (hw : construct P os g cmd = some w)
    (hd : generate P w g.account g.a g.b = some data)
    (hr : if g.paranoia then paranoia data = some r else r = data) :
    run P os fs argv = .emit (if g.file then .file else .stdout) r := by
  rw [run_eq, hp]
  dsimp only
  rw [report_eq_some_iff.mpr ⟨w, data, hw, hd, hr⟩]

open CliToy in
/-- the hypothesis of `accept_equals_api` is satisfiable: on the toy primitives this run emits to
standard output -/
example :
    emitsTo (run prims osRandom .absent ["--testnet".toList, "--account".toList, "5".toList,
      "--interval".toList, "0".toList, "1".toList, "from-bip39-seed".toList, seedHex])
    = some .stdout := by decide +kernel

/-- an argument vector argparse refuses is rejected -/
theorem reject_parse {P : Prims Pt} {os : Nat → Bytes} {fs : FsClass} {argv : List (List Char)}
    (h : parseArgs fs argv = none) : run P os fs argv = .reject := by
  rw [run_eq, h]

/-- an exception in the wallet constructor (bad checksum, non-hex text, unknown version, …) ends the run before
anything is printed -/
theorem reject_construct {P : Prims Pt} {os : Nat → Bytes} {fs : FsClass}
    {argv : List (List Char)} {g : Globals} {cmd : Cmd}
    (hp : parseArgs fs argv = some (g, some cmd)) (hw : construct P os g cmd = none) :
    run P os fs argv = .reject := by
  rw [run_eq, hp]
  dsimp only
  rw [report_eq_none_iff.mpr (.inl hw)]

/-- so does an exception in `generate`: the report is built completely before the single write -/
theorem reject_generate {P : Prims Pt} {os : Nat → Bytes} {fs : FsClass}
    {argv : List (List Char)} {g : Globals} {cmd : Cmd} {w : Wallet}
    (hp : parseArgs fs argv = some (g, some cmd)) (hw : construct P os g cmd = some w)
    (hd : generate P w g.account g.a g.b = none) : run P os fs argv = .reject := by
  rw [run_eq, hp]
  dsimp only
  rw [report_eq_none_iff.mpr (.inr ⟨w, hw, hd⟩)]

/-- `paranoia_mode` never fails on a report `generate` produced: the result consists of exactly
the three account groups, each reduced to path, public key and the rows without their last
(WIF) column -/
theorem paranoia_never_fails {P : Prims Pt} {w : Wallet} {account a b : Nat} {data : Json}
    (h : generate P w account a b = some data) :
    ∃ r44 r49 r84,
      bipAccount P w 44 (p2pkhAddress P w.testnet) account a b = some r44 ∧
      bipAccount P w 49 (p2shP2wpkhAddress P w.testnet) account a b = some r49 ∧
      bipAccount P w 84 (p2wpkhAddress P w.testnet) account a b = some r84 ∧
      paranoia data = some (.obj [("BIP44".toList, paranoiaAcct r44),
        ("BIP49".toList, paranoiaAcct r49), ("BIP84".toList, paranoiaAcct r84)]) := by
  obtain ⟨r44, r49, r84, b85, h44, h49, h84, _, rfl⟩ := generate_eq_some.mp h
  refine ⟨r44, r49, r84, h44, h49, h84, ?_⟩
  obtain ⟨_, _, _, _, _, _, _, rfl, _⟩ := bipAccount_spec h44
  obtain ⟨_, _, _, _, _, _, _, rfl, _⟩ := bipAccount_spec h49
  obtain ⟨_, _, _, _, _, _, _, rfl, _⟩ := bipAccount_spec h84
  rw [paranoia_report, paranoiaAcct_toPair, paranoiaAcct_toPair, paranoiaAcct_toPair]

/-- the complete list of reasons for rejection: argparse error, constructor error, `generate`
error — nothing else -/
theorem reject_cases {P : Prims Pt} {os : Nat → Bytes} {fs : FsClass} {argv : List (List Char)} :
    run P os fs argv = .reject ↔
      parseArgs fs argv = none ∨
      ∃ g cmd, parseArgs fs argv = some (g, some cmd) ∧
        (construct P os g cmd = none ∨
         ∃ w, construct P os g cmd = some w ∧ generate P w g.account g.a g.b = none) := by
  constructor
  · intro h
    rw [run_eq] at h
    split at h
    · next hp => exact .inl hp
    · cases h
    · next g cmd hp =>
      split at h
      · next hr => exact .inr ⟨g, cmd, hp, report_eq_none_iff.mp hr⟩
      · cases h
  · rintro (h | ⟨g, cmd, hp, hw | ⟨w, hw, hd⟩⟩)
    · exact reject_parse h
    · exact reject_construct hp hw
    · exact reject_generate hp hw hd

/-- the usage text (exit status 1) is shown exactly when no sub-command was given -/
theorem help_iff {P : Prims Pt} {os : Nat → Bytes} {fs : FsClass} {argv : List (List Char)} :
    run P os fs argv = .help ↔ ∃ g, parseArgs fs argv = some (g, none) := by
  rw [run_eq]
  constructor
  · intro h
    split at h
    · cases h
    · next g hp => exact ⟨g, hp⟩
    · split at h <;> cases h
  · rintro ⟨g, hp⟩
    rw [hp]

example (P : Prims Pt) (os : Nat → Bytes) : run P os .absent ["--testnet".toList] = .help :=
  help_iff.mpr ⟨{ testnet := true }, by decide +kernel⟩

example (P : Prims Pt) (os : Nat → Bytes) :
    run P os .file ["-f".toList, "out.json".toList, "new".toList] = .reject :=
  reject_parse (by decide +kernel)

/-! ### an existing file is never the target -/

/-- reading the global options switches the `file` flag on only after `file_` accepted the path -/
theorem parseGlobals_file_invariant {fs : FsClass} {fuel : Nat} {g g' : Globals}
    {argv rest : List (List Char)} (h : parseGlobals fs fuel g argv = some (g', rest))
    (hf : g'.file = true) : g.file = true ∨ fs = .absent :=
  (parseGlobals_sound h).file_inv hf

/-- a report goes to the file only if nothing existed at that path (and its parent directory is
writable): an existing file is never overwritten -/
theorem file_never_existing {P : Prims Pt} {os : Nat → Bytes} {fs : FsClass}
    {argv : List (List Char)} {r : Json} (h : run P os fs argv = .emit .file r) : fs = .absent := by
  obtain ⟨g, cmd, w, data, hp, _, _, _, ht⟩ := accept_equals_api h
  refine (parseArgs_file hp).2 ?_
  cases hf : g.file with
  | true => rfl
  | false => rw [hf] at ht; cases ht

open CliToy in
/-- the hypothesis of `file_never_existing` is satisfiable: with a fresh path this run (new wallet,
paranoia mode) emits to the file -/
example :
    emitsTo (run prims osRandom .absent ["-f".toList, "out.json".toList, "--paranoia".toList,
      "--interval".toList, "0".toList, "1".toList, "new".toList, "--mnemonic-len".toList,
      "12".toList])
    = some .file := by decide +kernel

/-- with a path that exists, is a directory, or has no writable parent, nothing is ever emitted
to a file -/
theorem existing_file_untouched {P : Prims Pt} {os : Nat → Bytes} {fs : FsClass}
    {argv : List (List Char)} (hfs : fs ≠ .absent) (r : Json) :
    run P os fs argv ≠ .emit .file r :=
  fun h => hfs (file_never_existing h)

/-- whenever `-f` / `--file` occurs in the argument vector and the path exists, is a directory, or
has no writable parent, the run is rejected outright: no wallet is even constructed -/
theorem existing_file_rejected {P : Prims Pt} {os : Nat → Bytes} {fs : FsClass}
    {argv : List (List Char)} (hfs : fs ≠ .absent)
    (hopt : ∃ t ∈ argv, t = "-f".toList ∨ t = "--file".toList) :
    parseArgs fs argv = none ∧ run P os fs argv = .reject := by
  have hnone : parseArgs fs argv = none := by
    rcases hp : parseArgs fs argv with _ | ⟨g, c⟩
    · rfl
    · obtain ⟨hf, habs⟩ := parseArgs_file hp
      exact absurd (habs (hf.trans (any_isFileOpt.mpr hopt))) hfs
  exact ⟨hnone, reject_parse hnone⟩

example (P : Prims Pt) (os : Nat → Bytes) :
    run P os .dir ["--testnet".toList, "--file".toList, "x".toList, "new".toList] = .reject :=
  (existing_file_rejected (by decide) ⟨_, by simp, .inr rfl⟩).2

/-- `pprint` on standard output exactly when `args.file` is unset -/
theorem stdout_when_no_file {P : Prims Pt} {os : Nat → Bytes} {fs : FsClass}
    {argv : List (List Char)} {tgt : Target} {r : Json} (h : run P os fs argv = .emit tgt r) :
    ∃ g cmd, parseArgs fs argv = some (g, some cmd) ∧ (tgt = .stdout ↔ g.file = false) := by
  obtain ⟨g, cmd, w, data, hp, _, _, _, ht⟩ := accept_equals_api h
  refine ⟨g, cmd, hp, ?_⟩
  subst ht
  cases g.file <;> simp

/-- the report goes to the file exactly when `-f` or `--file` occurs in the argument vector, and
to standard output exactly when neither does -/
theorem target_iff_file_option {P : Prims Pt} {os : Nat → Bytes} {fs : FsClass}
    {argv : List (List Char)} {tgt : Target} {r : Json} (h : run P os fs argv = .emit tgt r) :
    (tgt = .file ↔ ∃ t ∈ argv, t = "-f".toList ∨ t = "--file".toList) ∧
    (tgt = .stdout ↔ ∀ t ∈ argv, t ≠ "-f".toList ∧ t ≠ "--file".toList) := by
  obtain ⟨g, cmd, w, data, hp, _, _, _, rfl⟩ := accept_equals_api h
  rw [← any_isFileOpt, ← (parseArgs_file hp).1]
  have : (∀ t ∈ argv, t ≠ "-f".toList ∧ t ≠ "--file".toList) ↔ ¬ g.file = true := by
    rw [(parseArgs_file hp).1, any_isFileOpt]
    simp only [not_exists, not_and, not_or]
  rw [this]
  cases g.file <;> simp

/-- `main` passes the `--testnet` flag, the password and the mnemonic length to the
constructors exactly as parsed; `from-master-xprv` takes the network from the key itself -/
theorem construct_wiring (P : Prims Pt) (os : Nat → Bytes) (g : Globals) :
    (∀ pw len, construct P os g (.new pw len) = newWallet P os len pw g.testnet) ∧
    (∀ k, construct P os g (.fromXprv k) = fromExtendedKey P k) ∧
    (∀ m pw, construct P os g (.fromMnemonic m pw) = fromMnemonic P m pw g.testnet) ∧
    (∀ s, construct P os g (.fromSeed s) = fromSeedHex P s g.testnet) ∧
    (∀ e pw, construct P os g (.fromEntropy e pw) = fromEntropyHex P e pw g.testnet) :=
  ⟨fun _ _ => rfl, fun _ => rfl, fun _ _ => rfl, fun _ => rfl, fun _ _ => rfl⟩

/-- every constructed wallet has a root object as master node, and (except for
`from-master-xprv`) lives on the network the `--testnet` flag names -/
theorem construct_root_and_network {P : Prims Pt} {os : Nat → Bytes} {g : Globals} {cmd : Cmd}
    {w : Wallet} (h : construct P os g cmd = some w) :
    w.master.path = [] ∧ ((∀ k, cmd ≠ .fromXprv k) → w.testnet = g.testnet) := by
  cases cmd with
  | new pw len =>
    obtain ⟨_, _, _, _, hb⟩ := newWallet_fields h
    exact ⟨hb.root, fun _ => hb.testnet⟩
  | fromXprv k => exact ⟨(fromExtendedKey_fields h).1, fun hx => absurd rfl (hx k)⟩
  | fromMnemonic m pw => exact ⟨(fromMnemonic_fields h).root, fun _ => (fromMnemonic_fields h).testnet⟩
  | fromSeed s => exact ⟨(fromSeedHex_fields h).root, fun _ => (fromSeedHex_fields h).testnet⟩
  | fromEntropy e pw =>
    obtain ⟨_, _, hb⟩ := fromEntropyHex_fields h
    exact ⟨hb.root, fun _ => hb.testnet⟩

/-! ### accepted account and interval values, and the shape of the derived rows (PARTIAL: known finding K2) -/

/-- accepted account and interval values (defaults 0 and 0, 20 included) are within the
validators' ranges -/
theorem accepted_bounds {fs : FsClass} {argv : List (List Char)} {g : Globals} {c : Option Cmd}
    (h : parseArgs fs argv = some (g, c)) :
    g.account < 2 ^ 31 - 1 ∧ g.a < 2 ^ 32 - 1 ∧ g.b < 2 ^ 32 - 1 := by
  obtain ⟨rest, hg, _⟩ := parseArgs_eq_some_iff.mp h
  exact hg.inRange ⟨by decide, by decide, by decide⟩

/-- the arguments of an accepted sub-command passed their validators -/
theorem accepted_command_valid {fs : FsClass} {argv : List (List Char)} {g : Globals} {cmd : Cmd}
    (h : parseArgs fs argv = some (g, some cmd)) :
    match cmd with
    | .new _ len => len ∈ [12, 15, 18, 21, 24]
    | .fromXprv k => k.length = 111
    | .fromMnemonic m _ => ∃ v, (splitOn ' ' v).length ∈ [12, 15, 18, 21, 24] ∧ m = strip v
    | .fromSeed s => s.length = 128
    | .fromEntropy e _ => e.length * 4 ∈ [128, 160, 192, 224, 256] := by
  obtain ⟨rest, _, ⟨_, hc⟩ | ⟨t, args, cmd', _, hc, hcmd⟩⟩ := parseArgs_eq_some_iff.mp h
  · cases hc
  · cases hcmd
    have := (parseCmd_spec hc).1
    cases cmd with
    | new => exact this
    | fromXprv k => obtain ⟨v, hv⟩ := this; obtain ⟨hl, rfl⟩ := extendedKeyArg_spec.mp hv; exact hl
    | fromMnemonic m => obtain ⟨v, hv⟩ := this; exact ⟨v, mnemonicArg_spec.mp hv⟩
    | fromSeed s => obtain ⟨v, hv⟩ := this; obtain ⟨hl, rfl⟩ := seedArg_spec.mp hv; exact hl
    | fromEntropy e => obtain ⟨v, hv⟩ := this; obtain ⟨hl, rfl⟩ := entropyArg_spec.mp hv; exact hl

/-- `parseArgs` is the global grammar `GParse` followed by one sub-command; the parsed globals
do not depend on the sub-command part, and the fuel `parseArgs` supplies is always enough -/
theorem parseArgs_grammar {fs : FsClass} {argv : List (List Char)} {g : Globals} {c : Option Cmd} :
    parseArgs fs argv = some (g, c) ↔
      ∃ rest, GParse fs {} argv g rest ∧
        ((rest = [] ∧ c = none) ∨
          ∃ t args cmd, rest = t :: args ∧ parseCmd t args = some cmd ∧ c = some cmd) :=
  parseArgs_eq_some_iff

/-- five levels: hardened purpose, coin and account; non-hardened chain and address index
(all within 32 bits) -/
def Bip44Shaped (levels : List Nat) : Prop :=
  ∃ p c n ch i, levels = [p, c, n, ch, i] ∧
    (2 ^ 31 ≤ p ∧ p < 2 ^ 32) ∧ (2 ^ 31 ≤ c ∧ c < 2 ^ 32) ∧ (2 ^ 31 ≤ n ∧ n < 2 ^ 32) ∧
    ch < 2 ^ 31 ∧ i < 2 ^ 31

example : Bip44Shaped [44 + 2 ^ 31, 1 + 2 ^ 31, 5 + 2 ^ 31, 0, 19] :=
  ⟨_, _, _, _, _, rfl, by omega, by omega, by omega, by omega, by omega⟩

/-- an accepted account number always gives a hardened 32-bit account level -/
theorem accepted_account_hardened {fs : FsClass} {argv : List (List Char)} {g : Globals}
    {c : Option Cmd} (h : parseArgs fs argv = some (g, c)) :
    2 ^ 31 ≤ g.account + 2 ^ 31 ∧ g.account + 2 ^ 31 < 2 ^ 32 := by
  have := (accepted_bounds h).1
  omega

/-- PARTIAL (interval end at most 2^31).  Full clause: "accepted account and interval values
always lead to BIP44-shaped rows: hardened purpose, coin and account, non-hardened chain and
address index" — false for interval values above 2^31, see `interval_hardened_fails`.
Proved: the rows of `bip44` / `bip49` / `bip84` are, in order, `groupRow` of the nodes derived
from the master along `[purpose + 2^31, coin + 2^31, account + 2^31, 0, i]` for
`i = a, a+1, …, b-1`; with `account < 2^31` and `b ≤ 2^31` each such level list is BIP44-shaped. -/
theorem rows_bip44_shaped_partial {P : Prims Pt} {w : Wallet} {purpose : Nat}
    {addr : Node → Option (List Char)} {account a b : Nat} {keys : Json} {rows : List Json}
    (h : bipAccount P w purpose addr account a b = some (keys, rows))
    (hroot : w.master.path = []) (hp : purpose ∈ [44, 49, 84]) (hacct : account < 2 ^ 31)
    (hb : b ≤ 2 ^ 31) :
    rows.length = b - a ∧ ∀ j (hj : j < rows.length),
      ∃ nd, derivePath P w.master
              [purpose + 2 ^ 31, (if w.testnet then 1 else 0) + 2 ^ 31, account + 2 ^ 31, 0, a + j]
              = some nd ∧
        nd.path =
          [purpose + 2 ^ 31, (if w.testnet then 1 else 0) + 2 ^ 31, account + 2 ^ 31, 0, a + j] ∧
        groupRow P w addr nd = some rows[j] ∧
        Bip44Shaped nd.path := by
  obtain ⟨hlen, hrows⟩ := bipAccount_rows h
  refine ⟨hlen, fun j hj => ?_⟩
  obtain ⟨nd, hd, hpath, hrow⟩ := hrows j hj
  rw [hroot] at hpath
  refine ⟨nd, hd, hpath, hrow, ?_⟩
  rw [hpath]
  refine ⟨_, _, _, _, _, rfl, ?_, ?_, ?_, by omega, by omega⟩
  · simp only [List.mem_cons, List.not_mem_nil, or_false] at hp
    rcases hp with rfl | rfl | rfl <;> omega
  · unfold coinLevel; split <;> omega
  · omega

open CliToy in
/-- the hypotheses of `rows_bip44_shaped_partial` are satisfiable (toy primitives, testnet,
account 5, interval 0..2) -/
example : ((fromSeedHex prims seedHex true).bind fun w =>
    bipAccount prims w 44 (p2pkhAddress prims w.testnet) 5 0 2).isSome = true := by decide +kernel

/-- PARTIAL, end to end (same restriction `b ≤ 2^31`; full clause quoted at
`rows_bip44_shaped_partial`): whenever the CLI emits a report, the three account groups of
that report were generated by `bip44` / `bip49` / `bip84` with the parsed account and interval,
and if the parsed interval end is at most 2^31 every row of every group comes from a node whose
levels from the master are BIP44-shaped -/
theorem emitted_rows_bip44_shaped_partial {P : Prims Pt} {os : Nat → Bytes} {fs : FsClass}
    {argv : List (List Char)} {tgt : Target} {r : Json} (h : run P os fs argv = .emit tgt r) :
    ∃ g cmd w r44 r49 r84, parseArgs fs argv = some (g, some cmd) ∧
      construct P os g cmd = some w ∧
      bipAccount P w 44 (p2pkhAddress P w.testnet) g.account g.a g.b = some r44 ∧
      bipAccount P w 49 (p2shP2wpkhAddress P w.testnet) g.account g.a g.b = some r49 ∧
      bipAccount P w 84 (p2wpkhAddress P w.testnet) g.account g.a g.b = some r84 ∧
      (g.b ≤ 2 ^ 31 →
        ∀ x ∈ [(p2pkhAddress P w.testnet, r44), (p2shP2wpkhAddress P w.testnet, r49),
                (p2wpkhAddress P w.testnet, r84)],
          ∀ j (hj : j < x.2.2.length), ∃ nd, groupRow P w x.1 nd = some x.2.2[j] ∧
            Bip44Shaped nd.path) := by
  obtain ⟨g, cmd, w, data, hp, hw, hd, _, _⟩ := accept_equals_api h
  obtain ⟨r44, r49, r84, b85, h44, h49, h84, _, _⟩ := generate_eq_some.mp hd
  refine ⟨g, cmd, w, r44, r49, r84, hp, hw, h44, h49, h84, fun hb x hx j hj => ?_⟩
  obtain ⟨p, hp44, hx⟩ : ∃ p ∈ [44, 49, 84], bipAccount P w p x.1 g.account g.a g.b = some x.2 := by
    simp only [List.mem_cons, List.not_mem_nil, or_false] at hx
    rcases hx with rfl | rfl | rfl
    · exact ⟨44, by simp, h44⟩
    · exact ⟨49, by simp, h49⟩
    · exact ⟨84, by simp, h84⟩
  obtain ⟨nd, _, _, hrow, hs⟩ := (rows_bip44_shaped_partial (keys := x.2.1) (rows := x.2.2) hx
    (construct_root_and_network hw).1 hp44 (by have := (accepted_bounds hp).1; omega) hb).2 j hj
  exact ⟨nd, hrow, hs⟩

/-- known finding K2: `address_index` accepts `2147483648` (= 2^31), the argument vector
`--interval 2147483648 2147483649 new` parses with that interval, `range(2147483648, 2147483649)`
is `[2147483648]`, the level list with that address index is not BIP44-shaped, and every report
generated for that interval has exactly one row per group, derived along that level list -/
theorem interval_hardened_fails :
    addressIndex "2147483648".toList = some 2147483648 ∧
    parseArgs .absent ["--interval".toList, "2147483648".toList, "2147483649".toList, "new".toList]
      = some ({ a := 2147483648, b := 2147483649 }, some (.new [] 24)) ∧
    List.range' 2147483648 (2147483649 - 2147483648) = [2147483648] ∧
    (∀ p c n, ¬ Bip44Shaped [p, c, n, 0, 2147483648]) ∧
    (∀ {Pt : Type} (P : Prims Pt) (w : Wallet) (purpose : Nat) (addr : Node → Option (List Char))
        (account : Nat) (keys : Json) (rows : List Json),
      w.master.path = [] →
      bipAccount P w purpose addr account 2147483648 2147483649 = some (keys, rows) →
      ∃ nd row, rows = [row] ∧ groupRow P w addr nd = some row ∧
        nd.path = [purpose + 2 ^ 31, (if w.testnet then 1 else 0) + 2 ^ 31, account + 2 ^ 31, 0,
          2147483648] ∧
        ¬ Bip44Shaped nd.path) := by
  have hns : ∀ p c n, ¬ Bip44Shaped [p, c, n, 0, 2147483648] := by
    rintro p c n ⟨p', c', n', ch, i, heq, _, _, _, _, hi⟩
    simp only [List.cons.injEq, and_true] at heq
    omega
  refine ⟨by decide +kernel, by decide +kernel, by decide +kernel, hns, ?_⟩
  intro Pt P w purpose addr account keys rows hroot h
  obtain ⟨hlen, hrows⟩ := bipAccount_rows h
  obtain ⟨row, rfl⟩ := List.length_eq_one_iff.mp hlen
  obtain ⟨nd, hd, hpath, hrow⟩ := hrows 0 Nat.zero_lt_one
  rw [hroot] at hpath
  exact ⟨nd, row, rfl, hrow, hpath, by rw [hpath]; exact hns _ _ _⟩

open CliToy in
/-- the `bipAccount` hypothesis in the last clause of `interval_hardened_fails` is satisfiable -/
example : ((fromSeedHex prims seedHex false).bind fun w =>
    bipAccount prims w 44 (p2pkhAddress prims w.testnet) 0 2147483648 2147483649).isSome = true := by
  decide +kernel

open CliToy in
/-- K2 end to end on the toy primitives: the run with `--interval 2147483648 2147483649` is not
rejected — it emits a report (whose rows are the hardened ones of `interval_hardened_fails`) -/
example :
    emitsTo (run prims osRandom .absent ["--interval".toList, "2147483648".toList,
      "2147483649".toList, "from-bip39-seed".toList, seedHex])
    = some .stdout := by decide +kernel

-- argument vectors that parse, and argument vectors `argparse` refuses

example :
    parseArgs .absent ["--testnet".toList, "--account".toList, "5".toList, "--interval".toList,
      "0".toList, "2".toList, "from-bip39-seed".toList, CliToy.seedHex] =
    some ({ testnet := true, account := 5, a := 0, b := 2 }, some (.fromSeed CliToy.seedHex)) := by
  decide +kernel

example : parseArgs .absent [] = some ({}, none) := by decide +kernel

example :
    parseArgs .absent ["-f".toList, "out.json".toList, "--paranoia".toList, "new".toList,
      "--mnemonic-len".toList, "12".toList, "--password".toList, "x".toList] =
    some ({ file := true, paranoia := true }, some (.new "x".toList 12)) := by decide +kernel

example : parseArgs .file ["-f".toList, "out.json".toList, "new".toList] = none := by
  decide +kernel

example : parseArgs .absent ["--account".toList, "-1".toList, "new".toList] = none := by
  decide +kernel

example : parseArgs .absent ["--account".toList, "2147483647".toList, "new".toList] = none := by
  decide +kernel

example : parseArgs .absent ["new".toList, "--mnemonic-len".toList, "13".toList] = none := by
  decide +kernel

end BtcHd.C20
