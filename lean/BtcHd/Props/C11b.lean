/-
C11 (part b) — Bech32 / Bech32m error detection at the level of 5-bit symbols
and the checksum constant.

Every checksummed symbol string the library can emit (witness version + at most
64 program symbols + 6 checksum symbols) has at most 71 symbols.  An error
pattern `e` is XOR-ed position-wise onto the last `e.length` symbols; a
substitution of `k` characters is a pattern of weight `k` (symbols `< 32`).

Definitions used below (`Lemmas/BchDefs.lean`, `Lemmas/Bch.lean`): `Bch.T c = Bech32.polymodStep c 0`
(linear part of a step), `Bch.syn` (syndrome of a pattern), `Bch.weight` (number of non-zero
entries).  The finite part of the argument — the checksum vectors of any four symbol positions,
and of any three together with the cross-over syndrome, are independent over GF(32) — is
evaluated by the kernel in `BtcHd/Bch/Distance.lean` and `BtcHd/Bch/Cross.lean` over `Bech32.gen`
and `Bech32.bech32mConst`, i.e. over the constants extracted from the Python source
(`Lemmas/GF2Packed.lean` proves the check sound).
-/
import BtcHd.Lemmas.BchDist

namespace BtcHd.C11
open BtcHd Bech32 Bch

/-- XOR-ing an error pattern onto the last symbols fed to `polymod` changes the result by exactly
the pattern's syndrome, whatever comes before (HRP expansion, earlier symbols) -/
theorem polymod_xor_error (pre xs e : List Nat) (h : xs.length = e.length) :
    polymod (pre ++ List.zipWith (· ^^^ ·) xs e) = polymod (pre ++ xs) ^^^ syn e := by
  unfold polymod syn
  rw [List.foldl_append, List.foldl_append,
    show (fun s v => T s ^^^ v) = polymodStep from
      funext fun s => funext fun v => (polymodStep_xor s v).symm]
  have := foldl_polymodStep_zipWith_xor xs e (List.foldl polymodStep 1 pre) 0 h
  rwa [Nat.xor_zero] at this

/-- minimum distance 5 up to length 71: one to four wrong symbols among the last 71 never have
syndrome zero -/
theorem bch_distance {e : List Nat} (hlen : e.length ≤ 71) (hsym : ∀ v ∈ e, v < 32)
    (h1 : 1 ≤ weight e) (h4 : weight e ≤ 4) : syn e ≠ 0 := by
  rw [syn_eq_synR]
  exact synR_ne_zero (by simpa using hlen) (by simpa using hsym) (by rwa [weight_reverse])
    (by rwa [weight_reverse])

/-- at most three wrong symbols among the last 71 never have the syndrome `1 ^^^ bech32mConst` that
turns a Bech32 checksum into a Bech32m one (or back) -/
theorem bch_cross {e : List Nat} (hlen : e.length ≤ 71) (hsym : ∀ v ∈ e, v < 32)
    (h3 : weight e ≤ 3) : syn e ≠ 1 ^^^ bech32mConst := by
  rw [syn_eq_synR]
  exact synR_ne_D (by simpa using hlen) (by simpa using hsym) (by rwa [weight_reverse])

/-- the two checksum constants of the source differ -/
theorem const_ne : bech32mConst ≠ 1 := bech32mConst_ne_one

private theorem xor_right_eq_self {a b : Nat} (h : a ^^^ b = a) : b = 0 :=
  (GF2.eq_xor_of_xor_eq h).trans (Nat.xor_self a)

/-- one to four wrong symbols among the last 71 always change the `polymod` value, so a string that
matched a checksum constant no longer matches the same constant -/
theorem detect_same_const {pre xs e : List Nat} {c : Nat} (hc : polymod (pre ++ xs) = c)
    (hl : xs.length = e.length) (hlen : e.length ≤ 71) (hsym : ∀ v ∈ e, v < 32)
    (h1 : 1 ≤ weight e) (h4 : weight e ≤ 4) :
    polymod (pre ++ List.zipWith (· ^^^ ·) xs e) ≠ c := by
  rw [polymod_xor_error pre xs e hl, hc]
  exact fun h => bch_distance hlen hsym h1 h4 (xor_right_eq_self h)

/-- one to three wrong symbols among the last 71 of a valid string are always rejected: the result
is neither the Bech32 nor the Bech32m constant -/
theorem detect_le3 {pre xs e : List Nat}
    (hc : polymod (pre ++ xs) = 1 ∨ polymod (pre ++ xs) = bech32mConst)
    (hl : xs.length = e.length) (hlen : e.length ≤ 71) (hsym : ∀ v ∈ e, v < 32)
    (h1 : 1 ≤ weight e) (h3 : weight e ≤ 3) :
    polymod (pre ++ List.zipWith (· ^^^ ·) xs e) ≠ 1 ∧
      polymod (pre ++ List.zipWith (· ^^^ ·) xs e) ≠ bech32mConst := by
  have hd := bch_distance hlen hsym h1 (by omega)
  have hx := bch_cross hlen hsym h3
  rw [polymod_xor_error pre xs e hl]
  rcases hc with hc | hc <;> rw [hc] <;> refine ⟨fun h => ?_, fun h => ?_⟩
  · exact hd (xor_right_eq_self h)
  · exact hx (GF2.eq_xor_of_xor_eq h)
  · exact hx (by rw [GF2.eq_xor_of_xor_eq h, Nat.xor_comm])
  · exact hd (xor_right_eq_self h)

/-- four wrong symbols among the last 71 of a valid string are accepted only if the checksum constant
switches (Bech32 ↔ Bech32m), which `decode` ties to witness version 0 versus non-zero -/
theorem detect_four {pre xs e : List Nat}
    (hc : polymod (pre ++ xs) = 1 ∨ polymod (pre ++ xs) = bech32mConst)
    (hc' : polymod (pre ++ List.zipWith (· ^^^ ·) xs e) = 1 ∨
      polymod (pre ++ List.zipWith (· ^^^ ·) xs e) = bech32mConst)
    (hl : xs.length = e.length) (hlen : e.length ≤ 71) (hsym : ∀ v ∈ e, v < 32)
    (h4 : weight e = 4) :
    polymod (pre ++ xs) ≠ polymod (pre ++ List.zipWith (· ^^^ ·) xs e) ∧
    ((polymod (pre ++ xs) = 1 ∧ polymod (pre ++ List.zipWith (· ^^^ ·) xs e) = bech32mConst) ∨
      (polymod (pre ++ xs) = bech32mConst ∧ polymod (pre ++ List.zipWith (· ^^^ ·) xs e) = 1)) := by
  have hne := detect_same_const (c := polymod (pre ++ xs)) rfl hl hlen hsym (by omega) (by omega)
  refine ⟨fun h => hne h.symm, ?_⟩
  rcases hc with hc | hc <;> rcases hc' with hc' | hc'
  · exact absurd (hc'.trans hc.symm) hne
  · exact Or.inl ⟨hc, hc'⟩
  · exact Or.inr ⟨hc, hc'⟩
  · exact absurd (hc'.trans hc.symm) hne

/-! ### the same at the level of `bech32_verify_checksum` -/

/-- a data part that verifies (either encoding) is rejected after one to three symbol
substitutions among its last 71 symbols -/
theorem verify_detect_le3 {hrp : List Char} {d xs e : List Nat}
    (hv : verifyChecksum hrp (d ++ xs) ≠ none)
    (hl : xs.length = e.length) (hlen : e.length ≤ 71) (hsym : ∀ v ∈ e, v < 32)
    (h1 : 1 ≤ weight e) (h3 : weight e ≤ 3) :
    verifyChecksum hrp (d ++ List.zipWith (· ^^^ ·) xs e) = none := by
  obtain ⟨spec, hs⟩ := Option.ne_none_iff_exists'.1 hv
  have a := verifyChecksum_eq_some_iff.mp hs
  rw [← List.append_assoc] at a
  obtain ⟨n1, n2⟩ := detect_le3 (by cases spec; exact Or.inl a; exact Or.inr a) hl hlen hsym h1 h3
  refine Option.eq_none_iff_forall_ne_some.2 fun spec' hs' => ?_
  have b := verifyChecksum_eq_some_iff.mp hs'
  rw [← List.append_assoc] at b
  cases spec'
  · exact n1 b
  · exact n2 b

/-- a data part that verifies with one encoding does not verify with the same encoding after one to
four symbol substitutions among its last 71 symbols (it is rejected or, for exactly four
substitutions, possibly accepted as the other encoding) -/
theorem verify_detect_le4 {hrp : List Char} {d xs e : List Nat} {spec : Encoding}
    (hv : verifyChecksum hrp (d ++ xs) = some spec)
    (hl : xs.length = e.length) (hlen : e.length ≤ 71) (hsym : ∀ v ∈ e, v < 32)
    (h1 : 1 ≤ weight e) (h4 : weight e ≤ 4) :
    verifyChecksum hrp (d ++ List.zipWith (· ^^^ ·) xs e) ≠ some spec := by
  intro hv'
  have a := verifyChecksum_eq_some_iff.mp hv
  have b := verifyChecksum_eq_some_iff.mp hv'
  rw [← List.append_assoc] at a b
  exact detect_same_const a hl hlen hsym h1 h4 b

/-! ### the same for substitutions: `ys` differs from `xs` in `diffCount xs ys` positions -/

/-- substituting one to three of the last (at most 71) symbols of a data part that verifies
(either encoding) gives a data part that is rejected -/
theorem verify_subst_le3 {hrp : List Char} {d xs ys : List Nat}
    (hv : verifyChecksum hrp (d ++ xs) ≠ none)
    (hl : xs.length = ys.length) (hlen : xs.length ≤ 71)
    (hx : ∀ v ∈ xs, v < 32) (hy : ∀ v ∈ ys, v < 32)
    (h1 : 1 ≤ diffCount xs ys) (h3 : diffCount xs ys ≤ 3) :
    verifyChecksum hrp (d ++ ys) = none := by
  obtain ⟨e, hle, hlt, hw, rfl⟩ := pattern_spec hl hx hy
  exact verify_detect_le3 hv hle (hle ▸ hlen) hlt (hw ▸ h1) (hw ▸ h3)

/-- substituting one to four of the last (at most 71) symbols of a data part that verifies with one
encoding gives a data part that does not verify with that encoding: it is rejected, or — only
possible for exactly four substitutions, by `verify_subst_le3` — accepted as the other encoding,
which `decode` then rejects unless the witness version also changed between 0 and non-zero -/
theorem verify_subst_le4 {hrp : List Char} {d xs ys : List Nat} {spec : Encoding}
    (hv : verifyChecksum hrp (d ++ xs) = some spec)
    (hl : xs.length = ys.length) (hlen : xs.length ≤ 71)
    (hx : ∀ v ∈ xs, v < 32) (hy : ∀ v ∈ ys, v < 32)
    (h1 : 1 ≤ diffCount xs ys) (h4 : diffCount xs ys ≤ 4) :
    verifyChecksum hrp (d ++ ys) ≠ some spec := by
  obtain ⟨e, hle, hlt, hw, rfl⟩ := pattern_spec hl hx hy
  exact verify_detect_le4 hv hle (hle ▸ hlen) hlt (hw ▸ h1) (hw ▸ h4)

/-- a concrete instance of the hypotheses of `verify_subst_le3`: the data part of the all-zero
32-byte version-0 program under HRP `bc`, with three symbols substituted -/
example :
    let xs := List.replicate 53 0 ++ createChecksum ['b', 'c'] (List.replicate 53 0) .bech32
    let ys := [3, 0, 9] ++ List.replicate 49 0 ++ [31] ++ xs.drop 53
    verifyChecksum ['b', 'c'] ([] ++ xs) ≠ none ∧ xs.length = ys.length ∧ xs.length ≤ 71 ∧
      (∀ v ∈ xs, v < 32) ∧ (∀ v ∈ ys, v < 32) ∧ diffCount xs ys = 3 := by decide +kernel

/-! ### non-vacuity and tightness -/

/-- a concrete instance of the hypotheses of `bch_distance` (a single wrong symbol, 71 symbols) -/
example : (List.replicate 70 0 ++ [7]).length ≤ 71 ∧ (∀ v ∈ List.replicate 70 0 ++ [7], v < 32) ∧
    1 ≤ weight (List.replicate 70 0 ++ [7]) ∧ weight (List.replicate 70 0 ++ [7]) ≤ 4 := by
  decide

/-- a concrete instance of the hypotheses of `detect_le3` / `detect_four`: the all-zero program of
witness version 0 under HRP `bc`, i.e. `hrpExpand "bc" ++ [0, …] ++ checksum`, verifies as Bech32 -/
example : verifyChecksum ['b', 'c'] (List.replicate 33 0 ++
    createChecksum ['b', 'c'] (List.replicate 33 0) .bech32) = some .bech32 := by decide +kernel

/-- the bound 4 in `bch_distance` is tight: five wrong symbols within 41 positions can cancel -/
theorem weight_five_undetected :
    let e := [25] ++ List.replicate 23 0 ++ [2] ++ List.replicate 5 0 ++ [18] ++
      List.replicate 8 0 ++ [1, 1]
    e.length = 41 ∧ (∀ v ∈ e, v < 32) ∧ weight e = 5 ∧ syn e = 0 := by decide +kernel

/-- the bound 3 in `bch_cross` is tight and the exception in `detect_four` is real: four wrong
symbols within the last 10 positions turn a Bech32 checksum into a Bech32m one -/
theorem weight_four_switches_const :
    let e := [26, 0, 0, 0, 17, 0, 0, 0, 13, 4]
    (∀ v ∈ e, v < 32) ∧ weight e = 4 ∧ syn e = 1 ^^^ bech32mConst := by decide +kernel

/-- the exception for four substitutions is real at the address level: these two `bc` addresses
differ in exactly four characters (one of them the witness-version character) and `decode`
accepts both, the first as version 0 and the second as version 1 -/
theorem four_substitutions_can_switch_version :
    let a1 := "bc1qqqqqqqqqqqqqqqqqqqqqqqqqqqqqqqqqqqqqqqqqqqqqqqqqqqqqthqst8".toList
    let a2 := "bc1pqqqqqqqqqqqqkqqqqqqqqlqqqqqqqqqqqqqqqqqqqeqqqqqqqqqqthqst8".toList
    decode ['b', 'c'] a1 = some (0, List.replicate 32 0) ∧
    decode ['b', 'c'] a2 = some (1, [0, 0, 0, 0, 0, 0, 0, 11, 0, 0, 0, 0, 0, 124, 0, 0, 0, 0, 0, 0,
      0, 0, 0, 0, 0, 6, 64, 0, 0, 0, 0, 0]) ∧
    a1.length = a2.length ∧ ((List.zip a1 a2).filter (fun p => p.1 != p.2)).length = 4 := by
  -- the literals as character lists, so that the kernel does not run the UTF-8 decoder
  repeat rw [String.toList_ofList]
  decide +kernel

end BtcHd.C11
