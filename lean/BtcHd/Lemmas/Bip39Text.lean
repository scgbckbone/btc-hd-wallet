/-
Characters and strings against numbers: code points below the surrogate range are ordered like
their characters; an ASCII string is the list of its UTF-8 bytes.  (The word list is checked on
numbers, which the kernel evaluates far more cheaply than `Char` or `String` operations.)
-/
import BtcHd.Lemmas.Basics

namespace BtcHd.Bip39
open BtcHd

/-! ### code points below the surrogate range -/

theorem ofNat_lt_ofNat {d e : Nat} (hd : d < 0xd800) (he : e < 0xd800) :
    Char.ofNat d < Char.ofNat e ↔ d < e := by
  rw [Char.lt_def, UInt32.lt_iff_toNat_lt, Char.toNat_val, Char.toNat_val,
    Basics.toNat_ofNat_of_lt hd, Basics.toNat_ofNat_of_lt he]

theorem ofNat_le_ofNat {d e : Nat} (hd : d < 0xd800) (he : e < 0xd800) :
    Char.ofNat d ≤ Char.ofNat e ↔ d ≤ e := by
  rw [← Char.not_lt, ofNat_lt_ofNat he hd, Nat.not_lt]

theorem map_ofNat_lt {a b : List Nat} (ha : ∀ d ∈ a, d < 0xd800) (hb : ∀ d ∈ b, d < 0xd800)
    (h : a < b) : a.map Char.ofNat < b.map Char.ofNat := by
  induction a generalizing b with
  | nil =>
    cases b with
    | nil => simp at h
    | cons y b => simp
  | cons x a ih =>
    cases b with
    | nil => simp at h
    | cons y b =>
      rw [List.cons_lt_cons_iff] at h
      rw [List.map_cons, List.map_cons, List.cons_lt_cons_iff,
        ofNat_lt_ofNat (ha x (List.mem_cons_self ..)) (hb y (List.mem_cons_self ..))]
      rcases h with h | ⟨rfl, h⟩
      · exact Or.inl h
      · exact Or.inr ⟨rfl, ih (fun d hd => ha d (List.mem_cons_of_mem _ hd))
          (fun d hd => hb d (List.mem_cons_of_mem _ hd)) h⟩

/-- the UTF-8 bytes of a string, as numbers.  For a string literal this is the cheapest thing the
kernel can be asked for: it sees the literal as `String.ofList` of its characters, whose bytes
are computed by encoding them, while `String.toList` decodes these bytes again. -/
def utf8Nats (s : String) : List Nat := s.toUTF8.data.toList.map UInt8.toNat

theorem toList_of_utf8Nats {s : String} (h : ∀ d ∈ utf8Nats s, d < 128) :
    s.toList = (utf8Nats s).map Char.ofNat := by
  have enc : ∀ bs : List UInt8, (∀ b ∈ bs, b.toNat < 128) →
      ((bs.map UInt8.toNat).map Char.ofNat).flatMap String.utf8EncodeChar = bs := by
    intro bs hbs
    have hv : ∀ b ∈ bs, (Char.ofNat b.toNat).toNat = b.toNat := fun b hb =>
      Basics.toNat_ofNat_of_lt (by have := hbs b hb; omega)
    -- core's encoder is the model's, which on ASCII writes the code point
    rw [← funext Text.utf8Char_eq_core, ← Text.utf8, Text.utf8_ascii, List.map_map, List.map_map]
    · exact (List.map_congr_left fun b hb => by simp [hv b hb]).trans (List.map_id _)
    · exact List.forall_mem_map.mpr (List.forall_mem_map.mpr fun b hb => (hv b hb).symm ▸ hbs b hb)
  have key : String.ofList ((utf8Nats s).map Char.ofNat) = s := by
    apply String.toByteArray_inj.mp
    rw [String.toByteArray_ofList, List.utf8Encode, utf8Nats,
      enc _ fun b hb => h _ (List.mem_map_of_mem hb)]
    exact ByteArray.ext (by simp)
  -- `s` is `ofList` of these characters, so they are its `toList`
  exact (congrArg String.toList key).symm.trans String.toList_ofList

end BtcHd.Bip39
