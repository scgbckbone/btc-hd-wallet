/-
A toy instance of the abstract `Curve` / `Prims` interface satisfying `CurveLaws`:
the cyclic group Z/5 with "points" written like SEC encodings.  Its only purpose is to
show that the hypotheses of the theorems that assume `CurveLaws` are satisfiable (non-vacuity);
nothing about secp256k1 is claimed here.
-/
import BtcHd.Lemmas.BeFixed
import BtcHd.Lemmas.CurveLaws

namespace BtcHd.Toy
open BtcHd BeFixed

/-- "point" `p` stands for `p·G` in Z/5; `0` (and junk ≥ 2^256) plays the point at infinity -/
def curve : Curve Nat where
  n := 5
  mulGen k := k % 5
  add a b := (a + b) % 5
  isInf p := decide (p = 0 ∨ 256 ^ 32 ≤ p)
  sec c p := if c then 2 :: beFixed 32 p else 4 :: beFixed 64 p
  parse bs :=
    match bs with
    | [] => none
    | b :: rest =>
      if (b = 2 ∧ rest.length = 32) ∨ (b = 4 ∧ rest.length = 64) then
        (if beToNat rest = 0 ∨ 256 ^ 32 ≤ beToNat rest then none else some (beToNat rest))
      else none

def prims : Prims Nat where
  sha256 _ := List.replicate 32 7
  hmac512 _ _ := List.replicate 64 1
  pbkdf2 _ _ _ := List.replicate 64 2
  nfkd s := s
  curve := curve

theorem hash256_length (x : Bytes) : (prims.hash256 x).length = 32 := by
  simp [Prims.hash256, prims]

theorem hash256_len (x : Bytes) : 4 ≤ (prims.hash256 x).length := by
  rw [hash256_length]; decide

theorem parse_cons {b : UInt8} {rest : Bytes} {pt : Nat} : curve.parse (b :: rest) = some pt ↔
    ((b = 2 ∧ rest.length = 32) ∨ (b = 4 ∧ rest.length = 64)) ∧
      (pt ≠ 0 ∧ pt < 256 ^ 32) ∧ beToNat rest = pt := by
  simp only [curve, Option.ite_none_right_eq_some, Option.ite_none_left_eq_some, Option.some.injEq,
    not_or, Nat.not_le]
  constructor <;> rintro ⟨h1, h2, rfl⟩ <;> exact ⟨h1, h2, rfl⟩

theorem isInf_iff {pt : Nat} : ¬ curve.isInf pt ↔ pt ≠ 0 ∧ pt < 256 ^ 32 := by
  simp only [curve, decide_eq_true_eq, not_or, Nat.not_le]

theorem laws : CurveLaws curve where
  n_pos := by decide
  n_lt := by decide
  sec_len := by intro pt _; simp [curve, beFixed_length]
  parse_sec := by
    intro c pt hinf
    have hpt := isInf_iff.mp hinf
    cases c
    · exact parse_cons.mpr ⟨.inr ⟨rfl, beFixed_length _ _⟩, hpt, beToNat_beFixed (by omega)⟩
    · exact parse_cons.mpr ⟨.inl ⟨rfl, beFixed_length _ _⟩, hpt, beToNat_beFixed hpt.2⟩
  sec_parse := by
    intro bs pt hl hp
    cases bs with
    | nil => cases hp
    | cons b rest =>
      have hr : rest.length = 32 := by simpa using hl
      obtain ⟨⟨rfl, _⟩ | ⟨_, h⟩, _, rfl⟩ := parse_cons.mp hp
      · show 2 :: beFixed 32 (beToNat rest) = _
        rw [beFixed_beToNat hr]
      · omega
  parse_notInf := by
    intro bs pt hp
    cases bs with
    | nil => cases hp
    | cons b rest => exact isInf_iff.mpr (parse_cons.mp hp).2.1
  mulGen_notInf := by
    intro k h0 hk
    have hk5 : k < 5 := hk
    exact isInf_iff.mpr (by show k % 5 ≠ 0 ∧ k % 5 < 256 ^ 32; omega)
  sec_prefix := by intro pt _; left; simp [curve]

end BtcHd.Toy
