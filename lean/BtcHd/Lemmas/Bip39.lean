/-
Helper lemmas for C04: the bit-string route of `mnemonic_from_entropy` (`bin()`, `zfill`,
11-character chunks, `int(·, 2)`) is big-endian binary notation; the chunks as numbers below `2 ^ 11`
(`chunks_spec`); the legal entropy sizes.
-/
import BtcHd.Model.Bip39
import BtcHd.Lemmas.BeFixed

namespace BtcHd.Bip39
open BtcHd

/-- blocks of one positive length: the concatenation determines the blocks -/
theorem flatMap_inj {α β : Type} {f : α → List β} {n : Nat} (hn : 0 < n)
    (hf : ∀ a, (f a).length = n) {xs ys : List α}
    (inj : ∀ x ∈ xs, ∀ y ∈ ys, f x = f y → x = y) (h : xs.flatMap f = ys.flatMap f) : xs = ys := by
  induction xs generalizing ys with
  | nil =>
    cases ys with
    | nil => rfl
    | cons y ys => have := congrArg List.length h; simp [hf] at this; omega
  | cons x xs ih =>
    cases ys with
    | nil => have := congrArg List.length h; simp [hf] at this; omega
    | cons y ys =>
      obtain ⟨h1, h2⟩ := List.append_inj h (by rw [hf, hf])
      rw [inj x (List.mem_cons_self ..) y (List.mem_cons_self ..) h1,
        ih (fun a ha b hb => inj a (List.mem_cons_of_mem _ ha) b (List.mem_cons_of_mem _ hb)) h2]

/-- the `w` low-order bits of `n`, most significant first -/
def bitsBE : Nat → Nat → List Bool
  | 0, _ => []
  | w + 1, n => bitsBE w (n / 2) ++ [decide (n % 2 = 1)]

/-- the bits of a byte string, most significant bit of the first byte first -/
def bytesBits (bs : Bytes) : List Bool := bs.flatMap (fun b => bitsBE 8 b.toNat)

def bitChar (b : Bool) : Char := if b then '1' else '0'

@[simp] theorem bitsBE_length (w n : Nat) : (bitsBE w n).length = w := by
  induction w generalizing n with
  | zero => rfl
  | succ w ih => simp [bitsBE, ih]

theorem bitsBE_mul_add (a b x y : Nat) (hy : y < 2 ^ b) :
    bitsBE (a + b) (x * 2 ^ b + y) = bitsBE a x ++ bitsBE b y := by
  induction b generalizing y with
  | zero =>
    obtain rfl : y = 0 := by simpa using hy
    simp [bitsBE]
  | succ b ih =>
    rw [bitsBE, ← List.append_assoc, ← ih _ (by omega : y / 2 < 2 ^ b), ← Nat.add_assoc, bitsBE,
      Nat.pow_succ, ← Nat.mul_assoc]
    generalize x * 2 ^ b = p
    rw [show (p * 2 + y) / 2 = p + y / 2 by omega, show (p * 2 + y) % 2 = y % 2 by omega]

theorem bitsBE_zero (w : Nat) : bitsBE w 0 = List.replicate w false := by
  induction w with
  | zero => rfl
  | succ w ih => rw [bitsBE, ih, List.replicate_succ']; rfl

theorem bitsBE_split (a b n : Nat) :
    bitsBE (a + b) n = bitsBE a (n / 2 ^ b) ++ bitsBE b (n % 2 ^ b) := by
  have h := bitsBE_mul_add a b (n / 2 ^ b) (n % 2 ^ b) (Nat.mod_lt _ (Nat.two_pow_pos b))
  rwa [Nat.mul_comm, Nat.div_add_mod] at h

theorem bitsBE_take (a b n : Nat) : (bitsBE (a + b) n).take a = bitsBE a (n / 2 ^ b) := by
  rw [bitsBE_split, List.take_left' (bitsBE_length ..)]

theorem binVal_bitsBE (w n : Nat) : binVal ((bitsBE w n).map bitChar) = n % 2 ^ w := by
  induction w generalizing n with
  | zero => simp [bitsBE, binVal, Nat.mod_one]
  | succ w ih =>
    have hd : (bitChar (decide (n % 2 = 1))).toNat - '0'.toNat = n % 2 := by
      rcases Nat.mod_two_eq_zero_or_one n with h | h <;> simp [h, bitChar]
    unfold binVal at ih ⊢
    rw [bitsBE, List.map_append, Nat.ofDigitChars_append, ih, List.map_singleton,
      Nat.ofDigitChars_cons, Nat.ofDigitChars_nil, hd, Nat.pow_succ, Nat.mul_comm (2 ^ w) 2,
      Nat.mod_mul]
    omega

theorem bitsBE_inj {w m n : Nat} (hm : m < 2 ^ w) (hn : n < 2 ^ w)
    (h : bitsBE w m = bitsBE w n) : m = n := by
  have := congrArg (fun l => binVal (l.map bitChar)) h
  rwa [binVal_bitsBE, binVal_bitsBE, Nat.mod_eq_of_lt hm, Nat.mod_eq_of_lt hn] at this

theorem exists_bitsBE (bs : List Bool) : ∃ n, n < 2 ^ bs.length ∧ bitsBE bs.length n = bs := by
  induction bs with
  | nil => exact ⟨0, by simp, rfl⟩
  | cons b bs ih =>
    obtain ⟨n, hn, e⟩ := ih
    refine ⟨b.toNat * 2 ^ bs.length + n, ?_, ?_⟩
    · rw [List.length_cons]; cases b <;> simp <;> omega
    · rw [List.length_cons, Nat.add_comm, bitsBE_mul_add 1 _ _ _ hn, e]; cases b <;> rfl

@[simp] theorem bytesBits_length (bs : Bytes) : (bytesBits bs).length = 8 * bs.length := by
  induction bs with
  | nil => rfl
  | cons b bs ih => simp [bytesBits] at ih ⊢; omega

theorem beToNat_lt_two_pow (bs : Bytes) : beToNat bs < 2 ^ (8 * bs.length) := by
  rw [Nat.pow_mul]; exact BeFixed.beToNat_lt bs

theorem bitsBE_beToNat (bs : Bytes) : bitsBE (8 * bs.length) (beToNat bs) = bytesBits bs := by
  induction bs with
  | nil => rfl
  | cons b bs ih =>
    rw [BeFixed.beToNat_cons, show (256 : Nat) ^ bs.length = 2 ^ (8 * bs.length) by rw [Nat.pow_mul],
      List.length_cons, Nat.mul_succ, Nat.add_comm, bitsBE_mul_add _ _ _ _ (beToNat_lt_two_pow bs), ih]
    rfl

theorem bytesBits_inj {xs ys : Bytes} (h : bytesBits xs = bytesBits ys) : xs = ys :=
  flatMap_inj (f := fun b : UInt8 => bitsBE 8 b.toNat) (Nat.zero_lt_succ 7) (fun _ => bitsBE_length ..)
    (fun x _ y _ e => UInt8.toNat_inj.mp (bitsBE_inj (UInt8.toNat_lt x) (UInt8.toNat_lt y) e)) h

theorem zfill_append (w : Nat) (s c : List Char) :
    zfill (w + c.length) (s ++ c) = zfill w s ++ c := by
  simp only [zfill, List.length_append, List.append_assoc]
  rw [show w + c.length - (s.length + c.length) = w - s.length by omega]

/-- `bin(n)[2:].zfill(w)` is the `w`-bit big-endian representation of `n` (for `0 < w`:
`bin(0)[2:]` is `"0"`, one character, not the empty string) -/
theorem zfill_binStr (w n : Nat) (hw : 0 < w) (hn : n < 2 ^ w) :
    zfill w (binStr n) = (bitsBE w n).map bitChar := by
  have hd : ∀ n, Nat.digitChar (n % 2) = bitChar (decide (n % 2 = 1)) := fun n => by
    rcases Nat.mod_two_eq_zero_or_one n with h | h <;> simp [h, bitChar]
  induction w generalizing n with
  | zero => omega
  | succ w ih =>
    rw [binStr, Nat.toDigits_eq_if (by decide), bitsBE, List.map_append, List.map_singleton, ← hd]
    split
    · next h2 =>
      have hdiv : n / 2 = 0 := by omega
      rw [hdiv, Nat.mod_eq_of_lt h2, bitsBE_zero]
      simp [zfill, bitChar]
    · next h2 =>
      have hw' : 0 < w := by
        rcases w with _ | w
        · simp at hn; omega
        · omega
      rw [← ih (n / 2) hw' (by rw [Nat.pow_succ] at hn; omega)]
      exact zfill_append w _ [_]

theorem zfill_binStr_beToNat {bs : Bytes} (h : 0 < bs.length) :
    zfill (8 * bs.length) (binStr (beToNat bs)) = (bytesBits bs).map bitChar := by
  rw [zfill_binStr _ _ (by omega) (beToNat_lt_two_pow bs), bitsBE_beToNat]

/-- the string `entropy_checksum` of `mnemonic_from_entropy` is the entropy bits followed by the
first `cs` bits of the hash -/
theorem entropyChecksum_eq (sha256 : Bytes → Bytes) (hsha : ∀ x, (sha256 x).length = 32)
    {eb : Bytes} (h : 0 < eb.length) {cs : Nat} (hcs : cs ≤ 256) :
    zfill (eb.length * 8 + cs)
      (binStr (beToNat eb) ++ (zfill 256 (binStr (beToNat (sha256 eb)))).take cs)
    = (bytesBits eb ++ (bytesBits (sha256 eb)).take cs).map bitChar := by
  have hH := zfill_binStr_beToNat (bs := sha256 eb) (by rw [hsha]; decide)
  rw [hsha] at hH
  rw [hH, ← List.map_take, List.map_append, ← zfill_binStr_beToNat h, Nat.mul_comm]
  have hlen : (((bytesBits (sha256 eb)).take cs).map bitChar).length = cs := by
    rw [List.length_map, List.length_take, bytesBits_length, hsha]; omega
  rw [← zfill_append, hlen]

theorem chunks_spec {w : Nat} (hw : 0 < w) (k : Nat) (bs : List Bool) (hlen : bs.length = w * k) :
    ((chunksExact w k (bs.map bitChar)).map binVal).length = k ∧
    (∀ i ∈ (chunksExact w k (bs.map bitChar)).map binVal, i < 2 ^ w) ∧
    ((chunksExact w k (bs.map bitChar)).map binVal).flatMap (bitsBE w) = bs := by
  induction k generalizing bs with
  | zero =>
    obtain rfl : bs = [] := List.eq_nil_of_length_eq_zero (by simpa using hlen)
    simp [chunksExact]
  | succ k ih =>
    rw [Nat.mul_succ] at hlen
    have hle : w ≤ (bs.map bitChar).length ∧ 0 < w := ⟨by rw [List.length_map]; omega, hw⟩
    obtain ⟨n, hn, e⟩ := exists_bitsBE (bs.take w)
    have htl : (bs.take w).length = w := by rw [List.length_take]; omega
    rw [htl] at hn e
    have hv : binVal ((bs.take w).map bitChar) = n := by
      rw [← e, binVal_bitsBE, Nat.mod_eq_of_lt hn]
    obtain ⟨h1, h2, h3⟩ := ih (bs.drop w) (by rw [List.length_drop]; omega)
    rw [chunksExact, if_pos hle, ← List.map_take, ← List.map_drop, List.map_cons, hv]
    refine ⟨by rw [List.length_cons, h1], ?_, by rw [List.flatMap_cons, h3, e, List.take_append_drop]⟩
    intro i hi
    rcases List.mem_cons.mp hi with rfl | hi
    · exact hn
    · exact h2 i hi

theorem mem_correctEntropyBits {b : Nat} :
    b ∈ Generated.correctEntropyBits ↔ b % 32 = 0 ∧ 128 ≤ b ∧ b ≤ 256 := by
  simp only [Generated.correctEntropyBits, List.mem_cons, List.not_mem_nil, or_false]
  omega

end BtcHd.Bip39
