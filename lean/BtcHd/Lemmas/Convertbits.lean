/-
`convertbits` regroups a bit string without loss, for arbitrary group widths.  The inner `while` loop has a
Hoare rule (`emit_induct`); "these groups spell this number without its low `b` bits" is `Groups`, with one
lemma per event of the loop (`snoc`: a group is emitted, `push`: a value arrives); the invariant of the
outer loop adds what `acc` holds; `convertbits_spec` states the result in terms of the number alone, and the
padded / un-padded halves and the round trip are read off it.
-/
import BtcHd.Lemmas.Digits
import BtcHd.Model.Bech32

namespace BtcHd.Bech32
open BtcHd Digits

/-- Hoare rule for the `while bits >= tobits` loop: what every round preserves holds at the end,
when also `bits < tobits` -/
theorem emit_induct {t : Nat} (ht : 0 < t) (maxv acc : Nat) {P : Nat → List Nat → Prop}
    (hP : ∀ b r, t ≤ b → P b r → P (b - t) (r ++ [(acc >>> (b - t)) &&& maxv])) :
    ∀ fuel b r, b / t < fuel → P b r →
      P (convStep.emit t maxv acc fuel b r).1 (convStep.emit t maxv acc fuel b r).2 ∧
        (convStep.emit t maxv acc fuel b r).1 < t
  | 0, _, _, h, _ => absurd h (Nat.not_lt_zero _)
  | fuel + 1, b, r, h, hb => by
    unfold convStep.emit
    by_cases hbt : b ≥ t
    · rw [if_pos hbt]
      exact emit_induct ht maxv acc hP fuel _ _ (by rw [Nat.div_eq_sub_div ht hbt] at h; omega)
        (hP b r hbt hb)
    · rw [if_neg hbt]
      exact ⟨hb, Nat.lt_of_not_le hbt⟩

theorem convStep_bits_lt {t : Nat} (ht : 0 < t) (f : Nat) (st : Nat × Nat × List Nat) (v : Nat) :
    (convStep f t st v).2.1 < t :=
  (emit_induct ht _ _ (P := fun _ _ => True) (fun _ _ _ _ => trivial) _ _ _ (Nat.lt_succ_self _)
    trivial).2

/-- `r` spells, in `t`-bit groups, the `L`-bit number `N` without its low `b` bits -/
structure Groups (t N L b : Nat) (r : List Nat) : Prop where
  len : r.length * t + b = L
  lt : ∀ x ∈ r, x < 2 ^ t
  value : horner (2 ^ t) r 0 = N / 2 ^ b

/-- one round of the inner loop: the next `t` bits move from the left-over bits to the groups -/
theorem Groups.snoc {t N L b : Nat} {r : List Nat} (h : Groups t N L b r) (hb : t ≤ b) :
    Groups t N L (b - t) (r ++ [N / 2 ^ (b - t) % 2 ^ t]) := by
  refine ⟨?_, ?_, ?_⟩
  · rw [List.length_append, List.length_singleton, Nat.add_mul, ← h.len]; omega
  · intro x hx
    rcases List.mem_append.mp hx with hx | hx
    · exact h.lt x hx
    · rw [List.mem_singleton.mp hx]; exact Nat.mod_lt _ (Nat.two_pow_pos t)
  · rw [horner_snoc, h.value, ← Nat.pow_sub_mul_pow 2 hb, ← Nat.div_div_eq_div_mul]
    exact Nat.div_add_mod' _ _

/-- `k` more bits `v` arrive below: the groups stay, there are `k` more left-over bits -/
theorem Groups.push {t N L b : Nat} {r : List Nat} (h : Groups t N L b r) {k v : Nat}
    (hv : v < 2 ^ k) : Groups t (N * 2 ^ k + v) (L + k) (b + k) r := by
  refine ⟨by rw [← h.len, Nat.add_assoc], h.lt, ?_⟩
  rw [h.value, Nat.pow_add, Nat.mul_comm (2 ^ b), ← Nat.div_div_eq_div_mul, Nat.mul_comm N,
    Nat.mul_add_div (Nat.two_pow_pos k), Nat.div_eq_of_lt hv, Nat.add_zero]

/-- run on the low `B` bits of `N`, the loop keeps appending the next `t` bits of `N` -/
theorem emit_spec {t N L B b : Nat} {r : List Nat} (ht : 0 < t) (hb : b ≤ B)
    (h : Groups t N L b r) {fuel : Nat} (hf : b / t < fuel) :
    ∃ b' r', convStep.emit t (2 ^ t - 1) (N % 2 ^ B) fuel b r = (b', r') ∧ b' < t ∧
      Groups t N L b' r' := by
  obtain ⟨⟨-, h'⟩, h1⟩ := emit_induct ht (2 ^ t - 1) (N % 2 ^ B)
    (P := fun b' r' => b' ≤ B ∧ Groups t N L b' r')
    (fun b' r' hb' ⟨hle, hg⟩ => ⟨by omega, by
      rw [Nat.and_two_pow_sub_one_eq_mod, Nat.shiftRight_eq_div_pow,
        mod_two_pow_div_mod _ _ _ _ (by omega)]
      exact hg.snoc hb'⟩)
    fuel b r hf ⟨hb, h⟩
  exact ⟨_, _, rfl, h1, h'⟩

/-- loop invariant of `convertbits` after consuming `xs`, which spell `N` in base `2 ^ f`: the
groups emitted so far spell all but the low `bits` bits of `N`, which are still in `acc` -/
structure ConvInv (f t : Nat) (xs : List Nat) (st : Nat × Nat × List Nat) : Prop where
  bits_lt : st.2.1 < t
  groups : Groups t (horner (2 ^ f) xs 0) (xs.length * f) st.2.1 st.2.2
  acc : st.1 = horner (2 ^ f) xs 0 % 2 ^ (f + t - 1)

theorem convInv_step {f t : Nat} (ht : 0 < t) {xs : List Nat} {st : Nat × Nat × List Nat}
    (h : ConvInv f t xs st) {v : Nat} (hv : v < 2 ^ f) :
    ConvInv f t (xs ++ [v]) (convStep f t st v) := by
  obtain ⟨a, bits, ret⟩ := st
  obtain ⟨h1, hg, h5⟩ := h
  simp only at h1 hg h5
  have hacc : ((a <<< f) ||| v) &&& (2 ^ (f + t - 1) - 1)
      = (horner (2 ^ f) xs 0 * 2 ^ f + v) % 2 ^ (f + t - 1) := by
    rw [Nat.and_two_pow_sub_one_eq_mod, ← Nat.shiftLeft_add_eq_or_of_lt hv, Nat.shiftLeft_eq, h5,
      Nat.add_mod, Nat.mod_mul_mod, ← Nat.add_mod]
  -- at most `t - 1` bits were left over, so at most `f + t - 1` are pending now: the width of `max_acc`
  obtain ⟨b', ret', e0, e1, e2⟩ := emit_spec ht (by omega : bits + f ≤ f + t - 1) (hg.push hv)
    (Nat.lt_add_one ((bits + f) / t))
  simp only [convStep, Nat.one_shiftLeft, hacc, e0]
  refine ⟨e1, ?_, ?_⟩
  · rwa [horner_snoc, List.length_append, List.length_singleton, Nat.add_mul, Nat.one_mul]
  · rw [horner_snoc]

theorem convInv_foldl {f t : Nat} (ht : 0 < t) (xs : List Nat) (hx : ∀ v ∈ xs, v < 2 ^ f) :
    ConvInv f t xs (xs.foldl (convStep f t) (0, 0, [])) := by
  induction xs using List.reverseRecOn with
  | nil => exact ⟨ht, ⟨by simp, by simp, by simp [horner]⟩, by simp [horner]⟩
  | append_singleton xs v ih =>
    rw [List.foldl_append]
    exact convInv_step ht (ih fun w hw => hx w (List.mem_append_left _ hw)) (hx v (by simp))

theorem convertbits_of_not_lt {data : List Nat} {f : Nat} (t : Nat) (pad : Bool) {d : Nat}
    (hd : d ∈ data) (h : ¬ d < 2 ^ f) : convertbits data f t pad = none := by
  unfold convertbits
  rw [if_pos (List.any_eq_true.mpr ⟨d, hd, ?_⟩)]
  have : 0 < d / 2 ^ f := Nat.div_pos (Nat.le_of_not_lt h) (Nat.two_pow_pos f)
  simpa [Nat.shiftRight_eq_div_pow] using Nat.ne_of_gt this

theorem convertbits_of_lt {f : Nat} {data : List Nat} (t : Nat) (pad : Bool)
    (hd : ∀ v ∈ data, v < 2 ^ f) :
    convertbits data f t pad =
      (let st := data.foldl (convStep f t) (0, 0, [])
       if pad then
         some (if st.2.1 ≠ 0 then st.2.2 ++ [(st.1 <<< (t - st.2.1)) &&& (2 ^ t - 1)] else st.2.2)
       else if st.2.1 ≥ f ∨ ((st.1 <<< (t - st.2.1)) &&& (2 ^ t - 1)) ≠ 0 then none
       else some st.2.2) := by
  have hany : data.any (fun v => (v >>> f) ≠ 0) = false := by
    rw [List.any_eq_false]
    intro v hv
    simp [Nat.shiftRight_eq_div_pow, Nat.div_eq_of_lt (hd v hv)]
  unfold convertbits
  rw [hany]
  simp only [Nat.one_shiftLeft]
  rfl

/-- What `convertbits` computes on `f`-bit values spelling `N`: `bits` is the number of left-over
low bits of `N`, `ret` the complete `t`-bit groups above them. -/
theorem convertbits_spec {f t : Nat} (ht : 0 < t) (data : List Nat) (hd : ∀ v ∈ data, v < 2 ^ f)
    (pad : Bool) :
    ∃ bits ret, bits < t ∧ Groups t (horner (2 ^ f) data 0) (data.length * f) bits ret ∧
      convertbits data f t pad =
        if pad then
          some (if bits ≠ 0 then ret ++ [horner (2 ^ f) data 0 % 2 ^ bits * 2 ^ (t - bits)] else ret)
        else if bits ≥ f ∨ horner (2 ^ f) data 0 % 2 ^ bits ≠ 0 then none
        else some ret := by
  have inv := convInv_foldl ht data hd
  rw [convertbits_of_lt t pad hd]
  generalize data.foldl (convStep f t) (0, 0, []) = st at inv
  obtain ⟨a, bits, ret⟩ := st
  obtain ⟨h1, hg, h5⟩ := inv
  simp only at h1 hg h5
  refine ⟨bits, ret, h1, hg, ?_⟩
  -- the padding symbol: the low `bits` bits of `N`, left-aligned in a `t`-bit group
  have hpad : (a <<< (t - bits)) &&& (2 ^ t - 1)
      = horner (2 ^ f) data 0 % 2 ^ bits * 2 ^ (t - bits) := by
    rw [Nat.and_two_pow_sub_one_eq_mod, Nat.shiftLeft_eq, ← pow_mul_pow_sub 2 (Nat.le_of_lt h1),
      Nat.mul_mod_mul_right, h5, Nat.mod_mod_of_dvd _ (Nat.pow_dvd_pow 2 (by omega))]
  simp [hpad]

theorem convertbits_out_lt {f t : Nat} (ht : 0 < t) {data out : List Nat}
    (h : convertbits data f t false = some out) : ∀ d ∈ out, d < 2 ^ t := by
  have hd : ∀ v ∈ data, v < 2 ^ f := fun v hv => by
    by_contra hlt
    rw [convertbits_of_not_lt t false hv hlt] at h
    cases h
  obtain ⟨bits, ret, -, hg, hc⟩ := convertbits_spec ht data hd false
  rw [hc, if_neg Bool.false_ne_true] at h
  split at h
  · cases h
  · cases h; exact hg.lt

theorem Groups.unique {t N L b b' : Nat} {r r' : List Nat} (ht : 0 < t) (h : Groups t N L b r)
    (h' : Groups t N L b' r') (hb : b < t) (hb' : b' < t) : b = b' ∧ r = r' := by
  obtain rfl : b = b' := by
    have := congrArg (· % t) (h.len.trans h'.len.symm)
    simpa [Nat.mod_eq_of_lt hb, Nat.mod_eq_of_lt hb'] using this
  have hl : r.length = r'.length :=
    Nat.eq_of_mul_eq_mul_right ht (Nat.add_right_cancel (h.len.trans h'.len.symm))
  exact ⟨rfl, horner_inj (Nat.one_lt_two_pow (by omega)) hl h.lt h'.lt (h.value.trans h'.value.symm)⟩

/-- `p` is the width of the padding -/
theorem convertbits_pad_spec {f t : Nat} (ht : 0 < t) (xs : List Nat)
    (hx : ∀ v ∈ xs, v < 2 ^ f) :
    ∃ out p, convertbits xs f t true = some out ∧ p < t ∧
      Groups t (horner (2 ^ f) xs 0 * 2 ^ p) (xs.length * f + p) 0 out := by
  obtain ⟨bits, ret, h1, hg, h⟩ := convertbits_spec ht xs hx true
  rw [if_pos rfl] at h
  by_cases hb : bits = 0
  · subst hb
    exact ⟨ret, 0, by simpa using h, ht, by simpa using hg⟩
  · -- the pad bits arrive like a value 0 of width `t - bits`, and fill the last group
    have := (hg.push (k := t - bits) (v := 0) (Nat.two_pow_pos _)).snoc (by omega)
    rw [Nat.add_sub_cancel' (Nat.le_of_lt h1), Nat.sub_self, Nat.pow_zero, Nat.div_one, Nat.add_zero,
      ← pow_mul_pow_sub 2 (Nat.le_of_lt h1), Nat.mul_mod_mul_right] at this
    exact ⟨_, t - bits, by rw [h, if_pos hb], by omega, this⟩

theorem convertbits_unpad_spec {f t : Nat} (ht : 0 < t) {ds xs : List Nat} {p : Nat}
    (hds : ∀ d ∈ ds, d < 2 ^ f) (hp : p < f) (hpt : p < t)
    (hg : Groups t (horner (2 ^ f) ds 0) (ds.length * f) p xs)
    (h0 : horner (2 ^ f) ds 0 % 2 ^ p = 0) : convertbits ds f t false = some xs := by
  obtain ⟨bits, ret, h1, hg', h⟩ := convertbits_spec ht ds hds false
  obtain ⟨rfl, rfl⟩ := hg'.unique ht hg h1 hpt
  rw [h, if_neg Bool.false_ne_true, h0, if_neg (by omega)]

theorem convertbits_roundtrip {f t : Nat} (ht : 0 < t) (htf : t ≤ f) (xs : List Nat)
    (hx : ∀ v ∈ xs, v < 2 ^ f) :
    ∃ out, convertbits xs f t true = some out ∧ (∀ d ∈ out, d < 2 ^ t) ∧
      out.length = (xs.length * f + (t - 1)) / t ∧ convertbits out t f false = some xs := by
  obtain ⟨out, p, h1, h2, ⟨h3, h4, h5⟩⟩ := convertbits_pad_spec ht xs hx
  rw [Nat.pow_zero, Nat.div_one] at h5
  refine ⟨out, h1, h4, ?_, convertbits_unpad_spec (by omega) h4 h2 (by omega) ⟨h3.symm, hx, ?_⟩ ?_⟩
  · rw [show xs.length * f + (t - 1) = t * out.length + (t - 1 - p) by rw [Nat.mul_comm t]; omega,
      Nat.mul_add_div ht, Nat.div_eq_of_lt (by omega), Nat.add_zero]
  · rw [h5, Nat.mul_div_cancel _ (Nat.two_pow_pos _)]
  · rw [h5, Nat.mul_mod_left]

theorem bytes_lt (bs : Bytes) : ∀ v ∈ bs.map (·.toNat), v < 2 ^ 8 := by
  intro v hv
  obtain ⟨b, _, rfl⟩ := List.mem_map.mp hv
  exact b.toNat_lt

theorem convertbits_8_5_5_8 (bs : Bytes) :
    ∃ five, convertbits (bs.map (·.toNat)) 8 5 true = some five ∧ (∀ d ∈ five, d < 32) ∧
      five.length = (bs.length * 8 + 4) / 5 ∧ convertbits five 5 8 false = some (bs.map (·.toNat)) := by
  simpa using convertbits_roundtrip (f := 8) (t := 5) (by decide) (by decide) _ (bytes_lt bs)

theorem convertbits_unpad_eq_none_iff {f t : Nat} (ht : 0 < t) (data : List Nat)
    (hd : ∀ v ∈ data, v < 2 ^ f) :
    convertbits data f t false = none ↔
      (data.length * f % t ≥ f ∨
        ∃ d, data.getLast? = some d ∧ d % 2 ^ (data.length * f % t) ≠ 0) := by
  obtain ⟨bits, ret, h1, hg, h⟩ := convertbits_spec ht data hd false
  have hb : data.length * f % t = bits := by
    rw [← hg.len, Nat.mul_add_mod_self_right, Nat.mod_eq_of_lt h1]
  rw [h, hb, if_neg Bool.false_ne_true]
  by_cases hf : bits ≥ f
  · simp [hf]
  · rcases List.eq_nil_or_concat data with rfl | ⟨l, d, rfl⟩
    · simp [horner]
    · obtain ⟨k, hk⟩ := Nat.pow_dvd_pow 2 (Nat.le_of_not_le hf)
      rw [List.concat_eq_append, horner_snoc, hk, Nat.mul_comm _ k, ← Nat.mul_assoc,
        Nat.mul_add_mod_self_right]
      simp [hf]

end BtcHd.Bech32
