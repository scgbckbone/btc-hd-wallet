/-
Helper lemmas for C15: what `paranoia_mode` (`paranoiaEntry`, `paranoia` in `Model/Wallet.lean`)
computes, in general and on the account blocks of a generated report.

The dictionary keys are string literals `"k".toList`.  Where keys are compared by evaluation, the
proofs first `rw [String.toList_ofList]`: that turns each literal into the explicit list of its
characters, and the kernel need not run its UTF-8 decoder, which is slow.
-/
import BtcHd.Model.PyJson
import BtcHd.Lemmas.Json
import BtcHd.Lemmas.Wallet

namespace BtcHd.Wallet
open BtcHd Basics

variable {Pt : Type}

theorem jsonDropLast_eq_some {r r' : Json} :
    Py.jsonDropLast r = some r' ↔ ∃ cols, r = .arr cols ∧ r' = .arr cols.dropLast := by
  cases r <;> simp [Py.jsonDropLast, eq_comm]

theorem paranoiaEntry_eq_some {v e : Json} :
    paranoiaEntry v = some e ↔
      ∃ inner keys rows pth pub rows', v = .obj inner ∧
        inner.lookup "account_extended_keys".toList = some (.obj keys) ∧
        inner.lookup "groups".toList = some (.arr rows) ∧
        keys.lookup "path".toList = some pth ∧ keys.lookup "pub".toList = some pub ∧
        rows.mapM Py.jsonDropLast = some rows' ∧
        e = .obj [("account_extended_keys".toList, .obj [("path".toList, pth), ("pub".toList, pub)]),
                  ("groups".toList, .arr rows')] := by
  constructor
  · intro h
    unfold paranoiaEntry at h
    split at h
    · next inner =>
      split at h
      · next keys rows h1 h2 =>
        split at h
        · next pth pub h3 h4 =>
          obtain ⟨rows', hr, he⟩ := Option.map_eq_some_iff.mp h
          exact ⟨inner, keys, rows, pth, pub, rows', rfl, h1, h2, h3, h4, hr, he.symm⟩
        · cases h
      · cases h
    · cases h
  · rintro ⟨inner, keys, rows, pth, pub, rows', rfl, h1, h2, h3, h4, hr, rfl⟩
    unfold paranoiaEntry
    simp only [h1, h2, h3, h4]
    exact congrArg (Option.map _) hr

theorem paranoiaEntry_acct (v : Acct) : paranoiaEntry (acctJson v.toPair) = some v.toPublicJson :=
  paranoiaEntry_eq_some.mpr ⟨_, _, v.rows.map Row.toJson, .str v.path, .str v.pub,
    v.rows.map Row.toPublicJson, rfl, List.lookup_cons_self, by simp [List.lookup, Acct.toPair],
    List.lookup_cons_self, by simp [List.lookup],
    mapM_eq_some_iff.mpr (by rw [List.map_map, List.map_map]; rfl), rfl⟩

theorem paranoia_eq_some {j j' : Json} :
    paranoia j = some j' ↔
      ∃ kvs out, j = .obj kvs ∧
        (kvs.filter fun (kv : List Char × Json) => kv.1 ∈ Generated.paranoiaKeys).mapM
          (fun (kv : List Char × Json) => (paranoiaEntry kv.2).map fun e => (kv.1, e)) = some out ∧
        j' = .obj out := by
  cases j <;> simp [paranoia, @eq_comm _ j']

/-- a report, by its five entries -/
abbrev reportJson (m b x44 x49 x84 : Json) : Json :=
  .obj [("MASTER".toList, m), ("BIP85".toList, b), ("BIP44".toList, x44), ("BIP49".toList, x49),
    ("BIP84".toList, x84)]

/-- a filtered report, by its three entries -/
abbrev publicJson (y44 y49 y84 : Json) : Json :=
  .obj [("BIP44".toList, y44), ("BIP49".toList, y49), ("BIP84".toList, y84)]

theorem paranoia_report (m b : Json) (v44 v49 v84 : Acct) :
    paranoia (reportJson m b (acctJson v44.toPair) (acctJson v49.toPair) (acctJson v84.toPair)) =
      some (publicJson v44.toPublicJson v49.toPublicJson v84.toPublicJson) := by
  unfold reportJson publicJson
  repeat rw [String.toList_ofList]
  simp [paranoia, Generated.paranoiaKeys, List.filter, paranoiaEntry_acct]

theorem report_step (m b : Json) (v44 v49 v84 : Acct) {K : List Char}
    (hK : K ∈ Generated.paranoiaKeys) :
    ∃ v, v ∈ [v44, v49, v84] ∧
      (reportJson m b (acctJson v44.toPair) (acctJson v49.toPair) (acctJson v84.toPair)).step (.inl K)
        = some (acctJson v.toPair) ∧
      (publicJson v44.toPublicJson v49.toPublicJson v84.toPublicJson).step (.inl K) = some v.toPublicJson := by
  unfold reportJson publicJson
  repeat rw [String.toList_ofList]
  simp only [Generated.paranoiaKeys, List.mem_cons, List.not_mem_nil, or_false] at hK
  rcases hK with rfl | rfl | rfl
  · exact ⟨v44, by simp, rfl, rfl⟩
  · exact ⟨v49, by simp, rfl, rfl⟩
  · exact ⟨v84, by simp, rfl, rfl⟩

theorem report_removed (m b x44 x49 x84 y44 y49 y84 : Json) :
    let j := reportJson m b x44 x49 x84
    let j' := publicJson y44 y49 y84
    (j.getPath [.inl "MASTER".toList] = some m ∧ j'.getPath [.inl "MASTER".toList] = none) ∧
    (j.getPath [.inl "BIP85".toList] = some b ∧ j'.getPath [.inl "BIP85".toList] = none) := by
  unfold reportJson publicJson
  repeat rw [String.toList_ofList]
  exact ⟨⟨rfl, rfl⟩, rfl, rfl⟩

theorem generate_paranoia {P : Prims Pt} {w : Wallet} {acct a b : Nat} {j : Json}
    (h : generate P w acct a b = some j) :
    ∃ (b85 : Json) (v44 v49 v84 : Acct),
      bip85Data P w = some b85 ∧
      j = reportJson (masterData w) b85 (acctJson v44.toPair) (acctJson v49.toPair) (acctJson v84.toPair) ∧
      (∀ v ∈ [v44, v49, v84], v.rows.length = b - a) ∧
      paranoia j = some (publicJson v44.toPublicJson v49.toPublicJson v84.toPublicJson) := by
  obtain ⟨r44, r49, r84, b85, h44, h49, h84, h85, rfl⟩ := generate_eq_some.mp h
  obtain ⟨_, _, _, rs44, _, _, _, rfl, l44, _⟩ := bipAccount_spec h44
  obtain ⟨_, _, _, rs49, _, _, _, rfl, l49, _⟩ := bipAccount_spec h49
  obtain ⟨_, _, _, rs84, _, _, _, rfl, l84, _⟩ := bipAccount_spec h84
  exact ⟨b85, _, _, _, h85, rfl, by simp [l44, l49, l84], paranoia_report ..⟩

theorem paranoia_isSome_of_generate {P : Prims Pt} {w : Wallet} {acct a b : Nat} {j : Json}
    (h : generate P w acct a b = some j) : (paranoia j).isSome = true := by
  obtain ⟨_, _, _, _, _, _, _, hp⟩ := generate_paranoia h
  rw [hp]
  rfl

/-! ### Leaves of the blocks -/

def Row.publicLeaves (r : Row) : List Leaf := [.inl r.path, .inl r.addr, .inl r.sec]

def Acct.publicLeaves (v : Acct) : List Leaf :=
  [.inl v.path, .inl v.pub] ++ v.rows.flatMap Row.publicLeaves

theorem mem_publicLeaves {v : Acct} {l : Leaf} :
    l ∈ v.publicLeaves ↔ l = .inl v.path ∨ l = .inl v.pub ∨
      ∃ r ∈ v.rows, l = .inl r.path ∨ l = .inl r.addr ∨ l = .inl r.sec := by
  simp [Acct.publicLeaves, Row.publicLeaves]

theorem leaves_acct_public (v : Acct) : leaves v.toPublicJson = v.publicLeaves := by
  simp [Acct.toPublicJson, Acct.publicLeaves, Row.toPublicJson, leaves_obj, leaves_arr, leaves_str,
    List.flatMap_map]
  -- the two sides differ in `Row.publicLeaves` being unfolded under the `flatMap`
  rfl

def Acct.allLeaves (v : Acct) : List Leaf :=
  [.inl v.path, .inl v.pub] ++ leaves (optStr v.prv) ++
    v.rows.flatMap fun r => r.publicLeaves ++ leaves (optStr r.wif)

theorem leaves_acct (v : Acct) : leaves (acctJson v.toPair) = v.allLeaves := by
  simp [acctJson, Acct.toPair, Acct.keysJson, Acct.allLeaves, Row.toJson, Row.publicLeaves,
    leaves_obj, leaves_arr, leaves_str, List.flatMap_map]

theorem leaves_public_report (v44 v49 v84 : Acct) :
    leaves (publicJson v44.toPublicJson v49.toPublicJson v84.toPublicJson) =
      v44.publicLeaves ++ v49.publicLeaves ++ v84.publicLeaves := by
  simp [leaves_obj, leaves_acct_public]

/-! ### Access by key and index: an account block before and after the filter -/

theorem acct_keys (v : Acct) :
    (∀ f ∈ ["path".toList, "pub".toList],
      SameStrAt [.inl "account_extended_keys".toList, .inl f] (acctJson v.toPair) v.toPublicJson) ∧
    RemovedAt [.inl "account_extended_keys".toList, .inl "prv".toList]
      (acctJson v.toPair) v.toPublicJson := by
  unfold acctJson Acct.toPair Acct.keysJson Acct.toPublicJson
  repeat rw [String.toList_ofList]
  refine ⟨fun f hf => ?_, rfl, rfl⟩
  simp only [List.mem_cons, List.not_mem_nil, or_false] at hf
  rcases hf with rfl | rfl
  · exact ⟨v.path, rfl, rfl⟩
  · exact ⟨v.pub, rfl, rfl⟩

theorem acct_rows (v : Acct) {i : Nat} (hi : i < v.rows.length) :
    (∀ c, c < 3 →
      SameStrAt [.inl "groups".toList, .inr i, .inr c] (acctJson v.toPair) v.toPublicJson) ∧
    RemovedAt [.inl "groups".toList, .inr i, .inr 3] (acctJson v.toPair) v.toPublicJson := by
  have t : ∀ f : Row → Json, (Json.arr (v.rows.map f)).step (.inr i) = some (f v.rows[i]) := by
    intro f
    rw [Json.step, List.getElem?_map, List.getElem?_eq_getElem hi]
    rfl
  unfold acctJson Acct.toPair Acct.toPublicJson
  repeat rw [String.toList_ofList]
  refine ⟨fun c hc => .step rfl rfl (.step (t _) (t _) ?_),
    .step rfl rfl (.step (t _) (t _) ⟨rfl, rfl⟩)⟩
  match c, hc with
  | 0, _ => exact ⟨_, rfl, rfl⟩
  | 1, _ => exact ⟨_, rfl, rfl⟩
  | 2, _ => exact ⟨_, rfl, rfl⟩

end BtcHd.Wallet
