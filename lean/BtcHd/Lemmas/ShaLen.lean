/-
Output lengths of the driver's SHA-256 / SHA-512 / HMAC-SHA512 (`Prims/Sha.lean`): the digests are
the serialisation of a fixed-size state, so the lengths are 32 / 64 / 64 for every input.
-/
import BtcHd.Prims.Sha

namespace BtcHd.Real

theorem foldl_size {α : Type} {f : Array α → Bytes → Array α} {n : Nat} (hf : ∀ st b, (f st b).size = n)
    (l : List Bytes) {st : Array α} (hst : st.size = n) : (l.foldl f st).size = n := by
  induction l generalizing st with
  | nil => exact hst
  | cons b l ih => exact ih (hf st b)

theorem flatMap_length {α : Type} {g : α → Bytes} {k : Nat} (hg : ∀ w, (g w).length = k) (l : List α) :
    (l.flatMap g).length = l.length * k := by
  rw [List.length_flatMap, funext hg, List.map_const', List.sum_replicate_nat]

theorem sha512Compress_size (st : Array UInt64) (block : Bytes) :
    (sha512Compress st block).size = 8 := rfl

theorem sha256Compress_size (st : Array UInt32) (block : Bytes) :
    (sha256Compress st block).size = 8 := rfl

theorem sha512Blocks_size (st : Array UInt64) (hst : st.size = 8) (data : Bytes) :
    (sha512Blocks st data).size = 8 :=
  foldl_size sha512Compress_size _ hst

theorem sha512Out_length (st : Array UInt64) (h : st.size = 8) : (sha512Out st).length = 64 := by
  rw [sha512Out, flatMap_length (g := u64Bytes) (k := 8) (fun _ => rfl), Array.length_toList, h]

theorem sha512_length (msg : Bytes) : (sha512 msg).length = 64 :=
  sha512Out_length _ (sha512Blocks_size _ rfl _)

theorem hmacSha512_length (key msg : Bytes) : (hmacSha512 key msg).length = 64 :=
  sha512_length _

theorem sha256_length (msg : Bytes) : (sha256 msg).length = 32 := by
  rw [sha256, flatMap_length (g := u32Bytes) (k := 4) (fun _ => rfl), Array.length_toList,
    foldl_size sha256Compress_size _ rfl]

end BtcHd.Real
