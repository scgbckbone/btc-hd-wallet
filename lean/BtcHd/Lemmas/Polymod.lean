/-
The algebra of the Bech32 checksum register: one step is affine over XOR in the input symbol and
linear in the register, stays within 30 bits, and only shifts while the register is below `2 ^ 25`;
hence feeding a list of symbols is XOR-additive.  Core Lean only: the modules of the BCH distance
check import this file.
-/
import BtcHd.Model.Bech32

namespace BtcHd.Bech32
open BtcHd

theorem gen_lt (i : Nat) : gen i < 2 ^ 30 := by
  unfold gen
  match i with
  | 0 | 1 | 2 | 3 | 4 => decide
  | n + 5 => simp [Generated.polymodGen]

theorem bech32mConst_ne_one : bech32mConst ≠ 1 := by decide

theorem polymodStep_xor (c v : Nat) : polymodStep c v = polymodStep c 0 ^^^ v := by
  simp only [polymodStep]
  ac_rfl

private theorem ite_bit_xor (g x y : Nat) :
    (if x &&& 1 ^^^ y &&& 1 = 1 then g else 0) =
      (if x &&& 1 = 1 then g else 0) ^^^ (if y &&& 1 = 1 then g else 0) := by
  rcases Nat.and_one_is_mod x ▸ Nat.mod_two_eq_zero_or_one x with hx | hx <;>
  rcases Nat.and_one_is_mod y ▸ Nat.mod_two_eq_zero_or_one y with hy | hy <;> simp [hx, hy]

theorem polymodStep_zero_xor (a b : Nat) :
    polymodStep (a ^^^ b) 0 = polymodStep a 0 ^^^ polymodStep b 0 := by
  simp only [polymodStep, Nat.shiftRight_xor_distrib, Nat.and_xor_distrib_right,
    Nat.shiftLeft_xor_distrib, ite_bit_xor]
  ac_rfl

private theorem xor_gen_lt {x : Nat} (hx : x < 2 ^ 30) (p : Prop) [Decidable p] (i : Nat) :
    x ^^^ (if p then gen i else 0) < 2 ^ 30 := by
  apply Nat.xor_lt_two_pow hx
  split
  · exact gen_lt i
  · decide

theorem polymodStep_lt {c v : Nat} (hv : v < 2 ^ 30) : polymodStep c v < 2 ^ 30 := by
  have hA : (c &&& 0x1ffffff) <<< 5 < 2 ^ 30 := by
    have : c &&& 0x1ffffff < 2 ^ 25 := Nat.and_lt_two_pow _ (by decide)
    rw [Nat.shiftLeft_eq]; omega
  exact xor_gen_lt (xor_gen_lt (xor_gen_lt (xor_gen_lt (xor_gen_lt (Nat.xor_lt_two_pow hA hv)
    _ 0) _ 1) _ 2) _ 3) _ 4

/-- a register below `2 ^ 25` has no feedback bit set: the step only shifts -/
theorem polymodStep_zero_of_lt {d : Nat} (hd : d < 2 ^ 25) : polymodStep d 0 = d <<< 5 := by
  have h1 : d >>> 25 = 0 := by rw [Nat.shiftRight_eq_div_pow, Nat.div_eq_of_lt hd]
  have h2 : d &&& 0x1ffffff = d := Nat.and_two_pow_sub_one_of_lt_two_pow (n := 25) hd
  simp [polymodStep, h1, h2]

theorem polymodStep_xor_low {c d : Nat} (v : Nat) (hd : d < 2 ^ 25) :
    polymodStep (c ^^^ d) v = polymodStep c v ^^^ (d <<< 5) := by
  rw [polymodStep_xor, polymodStep_zero_xor, polymodStep_zero_of_lt hd, polymodStep_xor c v]
  ac_rfl

theorem polymod_append (a b : List Nat) : polymod (a ++ b) = b.foldl polymodStep (polymod a) := by
  simp only [polymod, List.foldl_append]

theorem foldl_polymodStep_zipWith_xor : ∀ (xs e : List Nat) (s d : Nat), xs.length = e.length →
    (List.zipWith (· ^^^ ·) xs e).foldl polymodStep (s ^^^ d) =
      xs.foldl polymodStep s ^^^ e.foldl polymodStep d
  | [], [], _, _, _ => rfl
  | x :: xs, y :: e, s, d, h => by
    have : polymodStep (s ^^^ d) (x ^^^ y) = polymodStep s x ^^^ polymodStep d y := by
      rw [polymodStep_xor, polymodStep_zero_xor, polymodStep_xor s x, polymodStep_xor d y]
      ac_rfl
    simp only [List.zipWith_cons_cons, List.foldl_cons, this]
    exact foldl_polymodStep_zipWith_xor xs e _ _ (by simpa using h)

theorem foldl_polymodStep_eq_xor (cs : List Nat) (s : Nat) :
    cs.foldl polymodStep s =
      (List.replicate cs.length 0).foldl polymodStep s ^^^ cs.foldl polymodStep 0 := by
  have hz : List.zipWith (· ^^^ ·) (List.replicate cs.length 0) cs = cs := by
    apply List.ext_getElem <;> simp
  have := foldl_polymodStep_zipWith_xor (List.replicate cs.length 0) cs s 0 (by simp)
  rwa [hz, Nat.xor_zero] at this

theorem verifyChecksum_eq_some_iff {hrp : List Char} {data : List Nat} {spec : Encoding} :
    verifyChecksum hrp data = some spec ↔ polymod (hrpExpand hrp ++ data) = constOf spec := by
  unfold verifyChecksum
  by_cases h1 : polymod (hrpExpand hrp ++ data) = 1
  · cases spec <;> simp [h1, constOf, bech32mConst_ne_one.symm]
  · by_cases h2 : polymod (hrpExpand hrp ++ data) = bech32mConst <;> cases spec <;>
      simp [h2, constOf, bech32mConst_ne_one]

end BtcHd.Bech32
