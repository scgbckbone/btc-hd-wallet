/-
For the `Props/Tr*` files, which prove the machine-translated Python functions of `Generated/Code.lean`
(namespace `BtcHd.Code`) equal to the hand-written model: the shapes the translator emits
(`for … in …` with `break` / `raise`, guards), and the digit test of `convert_hardened`.
-/
import BtcHd.Generated.Code

namespace BtcHd.Translated
open BtcHd

/-- a `while cond: s = step s` loop run for at most `fuel` rounds -/
def whileFuel {σ : Type} (cond : σ → Prop) [DecidablePred cond] (step : σ → σ) : Nat → σ → σ
  | 0, s => s
  | n + 1, s => if cond s then whileFuel cond step n (step s) else s

/-- `for _ in l: if not cond: break; s = step s` is the bounded while loop -/
theorem forIn_break {m : Type → Type} [Monad m] [LawfulMonad m] {α σ : Type} (cond : σ → Prop)
    [DecidablePred cond] (step : σ → σ) (l : List α) (s : σ) :
    forIn (m := m) l s (fun _ s => if ¬ cond s then pure (ForInStep.done s)
      else pure (ForInStep.yield (step s))) = pure (whileFuel cond step l.length s) := by
  induction l generalizing s with
  | nil => rfl
  | cons a l ih =>
    rw [List.forIn_cons]
    by_cases hc : cond s
    · simp only [hc, not_true_eq_false, if_false, List.length_cons, whileFuel, pure_bind]
      exact ih _
    · simp [hc, whileFuel]

/-- `for a in l: if bad a: raise …; s = g s a` (as translated, in `Option`): `none` as soon as one
element is bad, otherwise the fold. -/
theorem forIn_raise_option {α σ : Type} (bad : α → Prop) [DecidablePred bad] (g : σ → α → σ)
    (l : List α) (s : σ) :
    forIn l s (fun a s => if bad a then none else some (ForInStep.yield (g s a))) =
      if l.any (fun a => decide (bad a)) then none else some (l.foldl g s) := by
  induction l generalizing s with
  | nil => rfl
  | cons a l ih =>
    rw [List.forIn_cons]
    by_cases hb : bad a
    · simp [hb]
    · simp only [hb, if_false, List.any_cons, decide_false, Bool.false_or, List.foldl_cons]
      exact ih _

/-- `if not c: raise …` followed by `return x` -/
theorem guard_eq {α : Type} (c : Prop) [Decidable c] (x : α) :
    (do if ¬ c then none
        return x : Option α) = if c then some x else none := by
  by_cases h : c <;> simp [h]

theorem isDigit_ascii {c : Char} (h : c.isDigit = true) : c.toNat < 128 := by
  simp only [Char.isDigit, Bool.and_eq_true, decide_eq_true_eq] at h
  have := h.2
  rw [UInt32.le_iff_toNat_le] at this
  show c.val.toNat < 128
  have e : '9'.val.toNat = 57 := rfl
  omega

/-- Python's `digits.isascii() and digits.isdigit()` as translated (every character below 128; non-empty
and every character a digit or non-ASCII) = the model's test: non-empty and all ASCII digits. -/
theorem asciiDigits_iff (digits : List Char) :
    ((digits.all (fun c => decide (c.toNat < 128))) = true ∧
      (decide (digits ≠ []) && digits.all (fun c => Char.isDigit c || decide (c.toNat ≥ 128))) = true)
    ↔ (digits ≠ [] ∧ digits.all Char.isDigit = true) := by
  simp only [List.all_eq_true, Bool.and_eq_true, decide_eq_true_eq, Bool.or_eq_true]
  constructor
  · rintro ⟨h1, h2, h3⟩
    refine ⟨h2, fun c hc => ?_⟩
    rcases h3 c hc with h | h
    · exact h
    · have := h1 c hc; omega
  · rintro ⟨h1, h2⟩
    exact ⟨fun c hc => isDigit_ascii (h2 c hc), h1, fun c hc => Or.inl (h2 c hc)⟩

end BtcHd.Translated
