/-
For `Props/TrBech32.lean`: the truthiness test of `bech32_polymod`, the inner loop of `convertbits`,
and for `bech32_decode` Python's `bech.lower() != bech and bech.upper() != bech` (the model's "an
upper-case and a lower-case letter both occur") and `str.rfind` (the model's `rfindOne`).
-/
import BtcHd.Lemmas.Translated
import BtcHd.Lemmas.Bech32

namespace BtcHd.Translated
open BtcHd BtcHd.Bech32

/-- Python's truthiness test `x & 1` against the model's `x &&& 1 = 1` -/
theorem and_one_ne_zero (x : Nat) : (x &&& 1 ≠ 0) = (x &&& 1 = 1) := by
  rw [Nat.and_one_is_mod]; apply propext; omega

/-- for `0 < tobits` the model's fuelled `emit` and the bounded while loop agree as soon as each has
fuel above `b / tobits`: both then run the loop to completion -/
theorem emit_eq_whileFuel {tobits : Nat} (h : 0 < tobits) (maxv acc : Nat) :
    ∀ (n m b : Nat) (r : List Nat), b / tobits < n → b / tobits < m →
      Bech32.convStep.emit tobits maxv acc n b r =
        whileFuel (fun s : Nat × List Nat => s.1 ≥ tobits)
          (fun s => (s.1 - tobits, s.2 ++ [(acc >>> (s.1 - tobits)) &&& maxv])) m (b, r)
  | 0, _, _, _, hn, _ => absurd hn (Nat.not_lt_zero _)
  | n + 1, m + 1, b, r, hn, hm => by
    unfold Bech32.convStep.emit whileFuel
    by_cases hb : b ≥ tobits
    · simp only [hb]
      rw [Nat.div_eq_sub_div h hb] at hn hm
      exact emit_eq_whileFuel h maxv acc n m _ _ (by omega) (by omega)
    · simp only [hb, if_false]

theorem lowerAscii_eq (c : Char) : Py.lowerAscii c = toLowerAscii c := by
  unfold Py.lowerAscii toLowerAscii isUpperAscii
  simp only [Bool.and_eq_true, decide_eq_true_eq]

theorem lowerAscii_ne_iff (c : Char) : Py.lowerAscii c ≠ c ↔ isUpperAscii c = true := by
  rw [lowerAscii_eq, Ne, toLowerAscii_eq_self_iff, Bool.not_eq_false]

theorem upperAscii_ne_iff (c : Char) : Py.upperAscii c ≠ c ↔ isLowerAscii c = true := by
  have key : ('a' ≤ c ∧ c ≤ 'z') ↔ isLowerAscii c = true := by simp [isLowerAscii]
  unfold Py.upperAscii
  by_cases h : isLowerAscii c = true
  · have h2 := (isLowerAscii_iff c).mp h
    rw [if_pos (key.mpr h)]
    refine iff_of_true (fun he => ?_) h
    have := Basics.toNat_ofNat_of_lt (n := c.toNat - 32) (by omega)
    rw [he] at this; omega
  · rw [if_neg (mt key.mp h)]
    exact iff_of_false (fun hn => hn rfl) h

theorem mixed_case_iff (s : List Char) :
    (s.map Py.lowerAscii ≠ s ∧ s.map Py.upperAscii ≠ s) ↔
      (s.any isUpperAscii && s.any isLowerAscii) = true := by
  simp only [Ne, Basics.map_eq_self_iff, not_forall, exists_prop, Bool.and_eq_true, List.any_eq_true,
    ← lowerAscii_ne_iff, ← upperAscii_ne_iff]

theorem rfind_eq (s : List Char) :
    Py.rfind s (Char.ofNat 49) = match rfindOne s with | some p => (p : Int) | none => -1 := by
  show Py.rfind s '1' = _
  unfold Py.rfind rfindOne
  by_cases h : '1' ∈ s.reverse <;> simp [h]

/-! ### the Nat subtractions listed in `Generated/Code.lean` never truncate

The translator writes Python's integer `-` as `Nat` subtraction and lists each one above its function.  The
tie theorems hold either way (the model subtracts in `Nat` too); what follows says that nothing is lost
against Python.  `(1 <<< tobits) - 1` and `(1 <<< (frombits + tobits - 1)) - 1`: a power of two is positive;
`frombits + tobits - 1`: `0 < tobits`; `bits - tobits` is guarded by `bits ≥ tobits`; `5 - i` ranges over
`List.range 6`; outside `bech32.py`, `word_count - 1` (`byte_count_from_word_count`) comes after the
membership test in `[12, 15, 18, 21, 24]`, and `2 ** 32 - 1`, `2 ** 31 - 1` (the CLI validators) are constants.
The only one needing an invariant is `tobits - bits` after the loop: -/

theorem one_le_one_shiftLeft (n : Nat) : 1 ≤ 1 <<< n := by
  rw [Nat.one_shiftLeft]; exact Nat.two_pow_pos n

/-- after the `for value in data` loop of `convertbits`, `bits < tobits`: the subtraction `tobits - bits`
of the padding step is an ordinary integer subtraction -/
theorem foldl_convStep_bits_lt {tobits : Nat} (h : 0 < tobits) (frombits : Nat) (data : List Nat) :
    (data.foldl (Bech32.convStep frombits tobits) (0, 0, [])).2.1 < tobits := by
  induction data using List.reverseRecOn with
  | nil => exact h
  | append_singleton xs v _ => rw [List.foldl_append]; exact convStep_bits_lt h ..

end BtcHd.Translated
