/-
Lemmas about the RIPEMD-160 model (`Model/Ripemd.lean`): the padding length, the two-phase block
loop as one pass over the padded message, the little-endian output and message words, `rol` as a
rotation.  They live in `namespace RipemdL`: `Ripemd` is the model's namespace, and `Props/C05.lean`
restates some of them under the same short names.
-/
import BtcHd.Model.Ripemd
import BtcHd.Lemmas.BeFixed

namespace BtcHd.RipemdL
open BtcHd Ripemd BeFixed

/-- the padded message of the RIPEMD-160 / MD4-family specification: the data, one byte `0x80`,
`padLen` zero bytes, and the bit length as a 64-bit little-endian integer -/
def padded (data : Bytes) : Bytes :=
  data ++ [0x80] ++ List.replicate (padLen data.length) 0 ++ leFixed 8 (8 * data.length)

/-- the digest of a chaining state: the five words, each as four little-endian bytes -/
def out (s : State) : Bytes :=
  leFixed 4 s.h0.toNat ++ leFixed 4 s.h1.toNat ++ leFixed 4 s.h2.toNat ++ leFixed 4 s.h3.toNat ++
    leFixed 4 s.h4.toNat

theorem padLen_lt (l : Nat) : padLen l < 64 := by
  unfold padLen; omega

theorem padLen_total (l : Nat) : (l + 1 + padLen l + 8) % 64 = 0 := by
  unfold padLen; omega

theorem padLen_least (l p : Nat) (h : (l + 1 + p + 8) % 64 = 0) : padLen l ≤ p := by
  unfold padLen; omega

/-- on Python integers `(119 - len) & 63` is the floor-mod residue of `119 - len` -/
theorem padLen_int (l : Nat) : ((119 : Int) - (l : Int)) % 64 = (padLen l : Int) := by
  unfold padLen; omega

theorem padded_length (data : Bytes) :
    (padded data).length = data.length + 1 + padLen data.length + 8 := by
  simp only [padded, List.length_append, List.length_cons, List.length_nil,
    List.length_replicate, leFixed_length]

/-- the padded message is the whole blocks of the data followed by the final block(s) the code
assembles -/
theorem padded_eq (data : Bytes) :
    padded data = data.take (64 * (data.length / 64)) ++ finBlock data := by
  unfold padded finBlock
  simp only [List.append_assoc]
  rw [← List.append_assoc (List.take _ data), List.take_append_drop]

theorem absorb_append (m k : Nat) (s : State) (a b : Bytes) (h : a.length = 64 * m) :
    absorb (m + k) s (a ++ b) = absorb k (absorb m s a) b := by
  induction m generalizing s a with
  | zero =>
    obtain rfl := List.length_eq_zero_iff.mp h
    rw [Nat.zero_add]; rfl
  | succ m ih =>
    rw [Nat.add_right_comm, absorb, absorb, List.take_append_of_le_length (by omega),
      List.drop_append_of_le_length (by omega), ih _ _ (by rw [List.length_drop]; omega)]

theorem absorb_take (m : Nat) (s : State) (d : Bytes) (h : 64 * m ≤ d.length) :
    absorb m s d = absorb m s (d.take (64 * m)) := by
  have := absorb_append m 0 s (d.take (64 * m)) (d.drop (64 * m)) (List.length_take_of_le h)
  rwa [List.take_append_drop] at this

theorem absorb_eq_foldl (n : Nat) (s : State) (msg : Bytes) :
    absorb n s msg =
      (List.range n).foldl (fun st i => compress st ((msg.drop (64 * i)).take 64)) s := by
  induction n generalizing s msg with
  | zero => rfl
  | succ n ih =>
    rw [absorb, ih, List.range_succ_eq_map, List.foldl_cons, List.foldl_map]
    simp only [List.drop_drop, Nat.mul_succ, Nat.add_comm 64]
    rfl

theorem leToNat_u32LE (w : UInt32) : leToNat (u32LE w) = w.toNat := by
  have := w.toNat_lt
  simp only [u32LE, leToNat, UInt32.toNat_toUInt8, UInt32.toNat_shiftRight, UInt32.toNat_ofNat,
    Nat.reducePow, Nat.reduceMod]
  omega

theorem u32LE_eq (w : UInt32) : u32LE w = leFixed 4 w.toNat := by
  rw [← leToNat_u32LE w]
  exact (leFixed_leToNat rfl).symm

/-! ### the two-phase loop is one pass over the padded message -/

theorem ripemd160_eq (data : Bytes) :
    ripemd160 data = out (absorb ((padded data).length / 64) initState (padded data)) := by
  have hm : 64 * (data.length / 64) ≤ data.length := Nat.mul_div_le _ _
  have hl := List.length_take_of_le hm
  rw [padded_eq, List.length_append, hl, Nat.mul_add_div (by decide), absorb_append _ _ _ _ _ hl,
    ← absorb_take _ _ _ hm]
  simp only [ripemd160, out, u32LE_eq]

theorem out_length (s : State) : (out s).length = 20 := by
  simp only [out, List.length_append, leFixed_length]

theorem ripemd160_length (data : Bytes) : (ripemd160 data).length = 20 := by
  rw [ripemd160_eq]
  exact out_length _

private theorem or_shiftLeft {x i : Nat} (h : x < 2 ^ i) (y : Nat) :
    x ||| y <<< i = x + 2 ^ i * y := by
  rw [Nat.or_comm, ← Nat.shiftLeft_add_eq_or_of_lt h, Nat.shiftLeft_eq, Nat.add_comm, Nat.mul_comm]

theorem le32_toNat (a b c d : UInt8) : (le32 a b c d).toNat = leToNat [a, b, c, d] := by
  have ha := a.toNat_lt
  have hb := b.toNat_lt
  have hc := c.toNat_lt
  have hd := d.toNat_lt
  simp only [le32, UInt32.toNat_or, UInt32.toNat_shiftLeft, UInt8.toNat_toUInt32, leToNat,
    UInt32.toNat_ofNat, Nat.reducePow, Nat.reduceMod]
  rw [Nat.mod_eq_of_lt (by rw [Nat.shiftLeft_eq]; omega),
    Nat.mod_eq_of_lt (by rw [Nat.shiftLeft_eq]; omega),
    Nat.mod_eq_of_lt (by rw [Nat.shiftLeft_eq]; omega),
    or_shiftLeft ha, or_shiftLeft (i := 16) (by omega), or_shiftLeft (i := 24) (by omega)]
  omega

theorem wordsLE_length : ∀ bs : Bytes, (wordsLE bs).length = bs.length / 4
  | _ :: _ :: _ :: _ :: rest => by
    rw [wordsLE, List.length_cons, wordsLE_length rest]
    simp only [List.length_cons]
    omega
  | [] | [_] | [_, _] | [_, _, _] => by simp [wordsLE]

theorem wordsLE_getD : ∀ (bs : Bytes) (i : Nat), 4 * i + 4 ≤ bs.length →
    ((wordsLE bs).getD i 0).toNat = leToNat ((bs.drop (4 * i)).take 4)
  | a :: b :: c :: d :: _, 0, _ => le32_toNat a b c d
  | _ :: _ :: _ :: _ :: rest, i + 1, h =>
    wordsLE_getD rest i (by simp only [List.length_cons] at h; omega)

theorem rol_eq_rotateLeft (x : UInt32) (i : Nat) (h0 : 0 < i) (h : i < 32) :
    (rol x i).toBitVec = x.toBitVec.rotateLeft i := by
  rw [BitVec.rotateLeft_def]
  simp only [rol, UInt32.toBitVec_or, UInt32.toBitVec_shiftLeft, BitVec.ofNat_eq_ofNat,
    BitVec.shiftLeft_eq', BitVec.toNat_umod, UInt32.toNat_toBitVec, UInt32.toNat_ofNat', Nat.reducePow,
    BitVec.toNat_ofNat, Nat.reduceMod, Nat.reduceDvd, Nat.mod_mod_of_dvd, UInt32.toBitVec_shiftRight,
    BitVec.ushiftRight_eq']
  rw [Nat.mod_eq_of_lt h, Nat.mod_eq_of_lt (by omega)]

end BtcHd.RipemdL
