/-
Executable definitions for the Bech32 BCH distance check, in kernel-friendly form (raw `Nat`
primitives, structural recursion): the linear step `T` of `polymodStep`, multiplication `Mx`
by the generator of GF(32) on the six symbols of a checksum word, and the table of the vectors
`T^t 1`.  Everything is defined over `Bech32.gen` / `Bech32.bech32mConst`, i.e. over the constants
extracted from the Python source on every run; no copy of the generator words or of the Bech32m
constant appears here.  Core Lean only.
-/
import BtcHd.Model.Bech32
import BtcHd.Lemmas.GF2Packed

namespace BtcHd.Bch
open BtcHd GF2

/-- one polymod step with input symbol 0: the GF(2)-linear part of `polymodStep` -/
def T (c : Nat) : Nat := Bech32.polymodStep c 0

/-- A 30-bit word is six 5-bit symbols, elements of GF(32) = GF(2)[x]/(x⁵ + x³ + 1) (BIP173).
`Mx` multiplies every symbol by `x`: the low four bits of each symbol move up, the top bit
`t` comes back as `x³ + 1`.  (`519552495` = `01111` six times, `34636833` = `00001` six times.) -/
def Mx (w : Nat) : Nat :=
  Nat.xor (Nat.xor (Nat.shiftLeft (Nat.land w 519552495) 1) (Nat.land (Nat.shiftRight w 4) 34636833))
    (Nat.shiftLeft (Nat.land (Nat.shiftRight w 4) 34636833) 3)

/-- `[w, T w, T² w, …]` (`n` entries) -/
def table : Nat → Nat → List Nat
  | 0, _ => []
  | n + 1, w => w :: table n (T w)

/-- `u` and any three of the vectors `ts` are independent over GF(32): `GF2.subQ` on the packed
orbits, started with every vector as its own reduced form (empty basis) -/
def check (u : Nat) (ts : List Nat) : Bool :=
  subQ 3 ts.length (pack ((u :: ts).flatMap (orbit Mx)))
    (pack (((u :: ts).flatMap (orbit Mx)).map fun _ => 1))

/-- the syndrome that would turn a Bech32 checksum into a Bech32m one (and back) -/
def D : Nat := Nat.xor 1 Bech32.bech32mConst

end BtcHd.Bch
