/-
Concrete nodes over the toy curve, used only as non-vacuity witnesses for the theorems about
well-formed (`Node.WF`) nodes.
-/
import BtcHd.Lemmas.XKey
import BtcHd.Lemmas.ToyCurve

namespace BtcHd.Toy
open BtcHd Bip32 XKey BeFixed

/-- a depth-2 private node with scalar 3 -/
def prvNode : Node :=
  { isPrv := true, key := beFixed 32 3, chainCode := List.replicate 32 9, depth := 2, index := 5,
    testnet := false, hasParent := false, parentFp := some [1, 2, 3, 4], path := [],
    parsedVersion := none }

/-- a depth-1 hardened public node with key `sec(3·G)` -/
def pubNode : Node :=
  { isPrv := false, key := 2 :: beFixed 32 3, chainCode := List.replicate 32 9, depth := 1,
    index := 2147483648, testnet := true, hasParent := false, parentFp := some [1, 2, 3, 4],
    path := [], parsedVersion := none }

/-- a master-shaped node whose stored fingerprint is not zero (BIP32-invalid header) -/
def badMaster : Node :=
  { isPrv := true, key := beFixed 32 3, chainCode := List.replicate 32 9, depth := 0, index := 0,
    testnet := false, hasParent := false, parentFp := some [1, 2, 3, 4], path := [],
    parsedVersion := none }

theorem prvNode_wf : prvNode.WF prims where
  chain_len := rfl
  fp_len := rfl
  depth_lt := by decide
  index_lt := by decide
  key_prv := fun _ => ⟨3, by decide, by decide, Or.inl rfl⟩
  key_pub := nofun

theorem prvNode_valid : BIP32valid prvNode := BIP32valid_of_depth_pos (by decide)

theorem pubNode_wf : pubNode.WF prims where
  chain_len := rfl
  fp_len := rfl
  depth_lt := by decide
  index_lt := by decide
  key_prv := nofun
  key_pub := fun _ => ⟨congrArg (· + 1) (beFixed_length 32 3), 3, laws.parse_sec true 3 (by decide)⟩

theorem pubNode_valid : BIP32valid pubNode := BIP32valid_of_depth_pos (by decide)

theorem badMaster_wf : badMaster.WF prims :=
  { prvNode_wf with depth_lt := by decide, index_lt := by decide }

end BtcHd.Toy
