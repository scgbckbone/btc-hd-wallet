/-
The executable independence check, on packed vectors.  For the kernel an arithmetic operation
costs the same whatever the size of the numbers, while every step of a recursion over a list is
dear.  So all vectors travel in ONE number, 32 bits each (`pack`): the orbit `[w, M w, …, M⁴ w]`
of the current candidate in the five lowest lanes, the orbits of the candidates after it above.
`elim` turns the lowest lanes one by one into echelon basis vectors and reduces all lanes above
by each of them in a single step; what is left after five lanes are the later candidates reduced
by the basis so far, and at the last level `allNZ` tests them all at once.  No basis is kept:
the list version (`insAll`, `red` of `Lemmas/GF2.lean`) lives in the proofs only.
`subQ_sound`: where `subQ` accepts, the candidate followed by any `k` of the later ones is a free
sequence.  Vectors are 30-bit words.  The definitions are written with the raw `Nat.add`,
`Nat.mul`, … and structural recursion, which the kernel evaluates with GMP.  Core Lean only.
-/
import BtcHd.Lemmas.GF2

namespace BtcHd.GF2

/-- `[c₀, c₁, …] ↦ c₀ + 2³² c₁ + 2⁶⁴ c₂ + …` -/
def pack : List Nat → Nat
  | [] => 0
  | c :: cs => Nat.add c (Nat.mul 4294967296 (pack cs))

/-- One step of `red`, with the vector `v` and its pivot as the mask `m = 2^p`, on every lane of
`Q` at once; `ones` has bit 0 of every lane set.  The pivot bit of every lane (`&&&`, exact
division by `m`) is multiplied by `v` and the products are XOR-ed in: no lane overflows as long as
lanes and `v` are below `2³²`. -/
def stepP (ones m v Q : Nat) : Nat :=
  Nat.xor Q (Nat.mul (Nat.div (Nat.land Q (Nat.mul ones m)) m) v)

/-- `insAll` on the `n` lowest lanes of `Q`, which are dropped; the lanes above are reduced by the
new basis vectors.  The pivot mask `gcd v 2³⁰` is the lowest set bit of `v` (`lowBit_spec`).
(Matching on `Nat.succ k` makes the kernel evaluate the lane once.) -/
def elim : Nat → Nat → Nat → Option Nat
  | 0, _, Q => some Q
  | n + 1, ones, Q =>
    match Nat.mod Q 4294967296 with
    | 0 => none
    | Nat.succ k =>
      elim n (Nat.div ones 4294967296)
        (stepP (Nat.div ones 4294967296) (Nat.gcd (Nat.succ k) 1073741824) (Nat.succ k)
          (Nat.div Q 4294967296))

/-- every lane of `P` is non-zero, for lanes below `2³⁰`: adding `2³⁰ - 1` sets bit 30 of a lane
iff the lane is not zero, and carries nothing into the next lane -/
def allNZ (P ones : Nat) : Bool :=
  Nat.beq (Nat.div (Nat.land (Nat.add P (Nat.mul ones 1073741823)) (Nat.shiftLeft ones 30)) 1073741824)
    ones

/-- `f n' Q' ones'` for each of the `n` groups of five lanes: `Q'` holds that group and the `n'`
groups above it (`1461501637330902918203684832716283019655932542976` is `2¹⁶⁰`) -/
def forGroups (f : Nat → Nat → Nat → Bool) : Nat → Nat → Nat → Bool
  | 0, _, _ => true
  | n + 1, Q, ones =>
    match f n Q ones with
    | false => false
    | true => forGroups f n (Nat.div Q 1461501637330902918203684832716283019655932542976)
        (Nat.div ones 1461501637330902918203684832716283019655932542976)

/-- `subQ k n Q ones`: `Q` holds the orbit of the current candidate (lowest five lanes) and, above
it, those of the `n` candidates after it, all reduced by the (implicit) basis of the candidates
chosen so far; `k` is the number of later candidates still to be chosen.  Accepts if the current
candidate followed by any `k` of the later ones, in their order, is free over that basis. -/
def subQ : Nat → Nat → Nat → Nat → Bool
  | 0, _, Q, _ =>
    match Nat.mod Q 4294967296 with
    | 0 => false
    | _ + 1 => true
  | k + 1, n, Q, ones =>
    match elim 5 ones Q with
    | none => false
    | some Q' =>
      match k with
      | 0 => allNZ Q' (Nat.div ones 1461501637330902918203684832716283019655932542976)
      | _ + 1 =>
        forGroups (subQ k) n Q' (Nat.div ones 1461501637330902918203684832716283019655932542976)

/-! ### lanes

The packed numbers are `pack (l.map f)` for one list `l`: the lane of `d ∈ l` holds `f d`, and
`pack (l.map fun _ => 1)` has bit 0 of every lane set. -/

theorem pack_cons (c : Nat) (cs : List Nat) : pack (c :: cs) = 2 ^ 32 * pack cs + c :=
  Nat.add_comm ..

theorem pack_mod {c : Nat} (cs : List Nat) (hc : c < 2 ^ 32) :
    (pack (c :: cs)).mod 4294967296 = c := by
  show pack (c :: cs) % 2 ^ 32 = c
  rw [pack_cons, Nat.mul_add_mod, Nat.mod_eq_of_lt hc]

theorem pack_div {c : Nat} (cs : List Nat) (hc : c < 2 ^ 32) :
    (pack (c :: cs)).div 4294967296 = pack cs := by
  show pack (c :: cs) / 2 ^ 32 = pack cs
  rw [pack_cons, Nat.mul_add_div (by decide), Nat.div_eq_of_lt hc, Nat.add_zero]

theorem lt32 {x : Nat} (h : x < 2 ^ 30) : x < 2 ^ 32 := Nat.lt_trans h (by decide)

variable {α : Type} {f g : α → Nat}

theorem pack_map_inj : ∀ {l : List α}, (∀ d ∈ l, f d < 2 ^ 32) → (∀ d ∈ l, g d < 2 ^ 32) →
    pack (l.map f) = pack (l.map g) → ∀ d ∈ l, f d = g d
  | e :: l, hf, hg, h, d, hd => by
    have hfe := hf e (List.mem_cons_self ..)
    have hge := hg e (List.mem_cons_self ..)
    rcases List.mem_cons.1 hd with rfl | hd
    · rw [← pack_mod (l.map f) hfe, ← pack_mod (l.map g) hge]
      exact congrArg (Nat.mod · 4294967296) h
    · refine pack_map_inj (fun x hx => hf x (List.mem_cons_of_mem _ hx))
        (fun x hx => hg x (List.mem_cons_of_mem _ hx)) ?_ d hd
      rw [← pack_div (l.map f) hfe, ← pack_div (l.map g) hge]
      exact congrArg (Nat.div · 4294967296) h

theorem pack_map_mul (m : Nat) : ∀ l : List α, pack (l.map fun d => f d * m) = pack (l.map f) * m
  | [] => (Nat.zero_mul m).symm
  | d :: l => by
    rw [List.map_cons, List.map_cons, pack_cons, pack_cons, pack_map_mul m l, Nat.add_mul,
      Nat.mul_assoc]

theorem pack_map_add : ∀ l : List α,
    pack (l.map fun d => f d + g d) = pack (l.map f) + pack (l.map g)
  | [] => rfl
  | d :: l => by
    rw [List.map_cons, List.map_cons, List.map_cons, pack_cons, pack_cons, pack_cons,
      pack_map_add l, Nat.mul_add]
    ac_rfl

theorem pack_map_bitwise {op : Nat → Nat → Nat} {b : Bool → Bool → Bool}
    (hop : ∀ x y i, (op x y).testBit i = b (x.testBit i) (y.testBit i)) (hb : b false false = false) :
    ∀ {l : List α}, (∀ d ∈ l, f d < 2 ^ 32) → (∀ d ∈ l, g d < 2 ^ 32) →
      op (pack (l.map f)) (pack (l.map g)) = pack (l.map fun d => op (f d) (g d))
  | [], _, _ => Nat.eq_of_testBit_eq fun i => by rw [hop]; simp [pack, hb]
  | d :: l, hf, hg => by
    have hfd := hf d (List.mem_cons_self ..)
    have hgd := hg d (List.mem_cons_self ..)
    have hlt : op (f d) (g d) < 2 ^ 32 := by
      apply Nat.lt_pow_two_of_testBit
      intro i hi
      have h2 := Nat.pow_le_pow_right (n := 2) (by decide) hi
      rw [hop, Nat.testBit_lt_two_pow (Nat.lt_of_lt_of_le hfd h2),
        Nat.testBit_lt_two_pow (Nat.lt_of_lt_of_le hgd h2), hb]
    rw [List.map_cons, List.map_cons, List.map_cons, pack_cons, pack_cons, pack_cons,
      ← pack_map_bitwise hop hb (fun x hx => hf x (List.mem_cons_of_mem _ hx))
        fun x hx => hg x (List.mem_cons_of_mem _ hx)]
    apply Nat.eq_of_testBit_eq; intro i
    rw [hop, Nat.testBit_two_pow_mul_add _ hfd, Nat.testBit_two_pow_mul_add _ hgd,
      Nat.testBit_two_pow_mul_add _ hlt]
    split <;> rw [hop]

theorem and_two_pow (x p : Nat) : x &&& 2 ^ p = (x.testBit p).toNat * 2 ^ p := by
  apply Nat.eq_of_testBit_eq
  intro i
  rw [Nat.testBit_and, Nat.testBit_two_pow]
  by_cases h : p = i
  · subst h; cases hb : x.testBit p <;> simp
  · cases x.testBit p <;> simp [h]

theorem pack_testBit {p : Nat} (hp : p < 32) {l : List α} (hf : ∀ d ∈ l, f d < 2 ^ 32) :
    (pack (l.map f) &&& pack (l.map fun _ => 1) * 2 ^ p) / 2 ^ p =
      pack (l.map fun d => ((f d).testBit p).toNat) := by
  -- the mask `2^p` in every lane
  rw [← pack_map_mul, pack_map_bitwise Nat.testBit_and rfl hf fun _ _ => by
      rw [Nat.one_mul]; exact Nat.pow_lt_pow_right (by decide) hp,
    show (fun d => f d &&& 1 * 2 ^ p) = fun d => ((f d).testBit p).toNat * 2 ^ p from
      funext fun d => by rw [Nat.one_mul, and_two_pow],
    pack_map_mul, Nat.mul_div_cancel _ (Nat.two_pow_pos p)]

theorem stepP_pack {p v : Nat} (hp : p < 32) (hv : v < 2 ^ 32) {l : List α}
    (hf : ∀ d ∈ l, f d < 2 ^ 32) :
    stepP (pack (l.map fun _ => 1)) (2 ^ p) v (pack (l.map f)) =
      pack (l.map fun d => f d ^^^ (bif (f d).testBit p then v else 0)) := by
  show pack (l.map f) ^^^ (pack (l.map f) &&& pack (l.map fun _ => 1) * 2 ^ p) / 2 ^ p * v = _
  rw [pack_testBit hp hf, ← pack_map_mul, pack_map_bitwise Nat.testBit_xor rfl hf fun d _ => by
    cases (f d).testBit p <;> simp [hv]]
  refine congrArg pack (List.map_congr_left fun d _ => ?_)
  cases (f d).testBit p <;> simp

theorem allNZ_spec {l : List α} (hf : ∀ d ∈ l, f d < 2 ^ 30)
    (h : allNZ (pack (l.map f)) (pack (l.map fun _ => 1)) = true) : ∀ d ∈ l, f d ≠ 0 := by
  have h' : (pack (l.map f) + pack (l.map fun _ => 1) * 1073741823 &&&
      pack (l.map fun _ => 1) * 2 ^ 30) / 2 ^ 30 = pack (l.map fun _ => 1) :=
    Nat.shiftLeft_eq .. ▸ Nat.eq_of_beq_eq_true h
  rw [← pack_map_mul, ← pack_map_add, pack_testBit (by decide) fun d hd => by
    have := hf d hd; omega] at h'
  -- bit 30 of `f d + (2³⁰ - 1)` is set for every `d`
  intro d hd h0
  have := pack_map_inj (fun d _ => by cases (f d + 1 * 1073741823).testBit 30 <;> decide)
    (fun _ _ => by decide) h' d hd
  rw [h0] at this
  revert this
  decide

theorem elim_pack : ∀ (ws : List Nat) {R : List Nat} {B : List (Nat × Nat)},
    (∀ pv ∈ B, pv.2 < 2 ^ 30) → (∀ x ∈ ws ++ R, x < 2 ^ 30) →
    elim ws.length (pack ((ws ++ R).map fun _ => 1)) (pack ((ws ++ R).map (red B))) =
      (insAll 30 B ws).map fun B' => pack (R.map (red B'))
  | [], _, _, _, _ => rfl
  | w :: ws, R, B, hB, hx => by
    have hx' : ∀ x ∈ ws ++ R, x < 2 ^ 30 := fun x h => hx x (List.mem_cons_of_mem _ h)
    have hw := red_lt hB (hx w (List.mem_cons_self ..))
    rw [List.length_cons, elim, List.cons_append, List.map_cons, List.map_cons, pack_mod _ (lt32 hw),
      pack_div _ (lt32 hw), pack_div _ (by decide), insAll]
    cases hv : red B w with
    | zero => rfl
    | succ k =>
      rw [hv] at hw
      -- the pivot `m = gcd (red B w) 2³⁰` is the mask of a set bit `p < 30`
      obtain ⟨hm, -, hp⟩ := lowBit_spec (n := 30) (Nat.succ_ne_zero k) hw
      show elim ws.length _ (stepP _ (Nat.gcd (k + 1) 1073741824) (k + 1) _) =
        Option.map _ (insAll 30 ((lowBit 30 (k + 1), k + 1) :: B) ws)
      rw [show Nat.gcd (k + 1) 1073741824 = 2 ^ lowBit 30 (k + 1) from hm,
        stepP_pack (Nat.lt_trans hp (by decide)) (lt32 hw) fun x h => lt32 (red_lt hB (hx' x h))]
      exact elim_pack ws (B := (lowBit 30 (k + 1), k + 1) :: B) (List.forall_mem_cons.2 ⟨hw, hB⟩) hx'

section Sound
variable {M : Nat → Nat}

theorem pack_append_div (f : Nat → Nat) : ∀ (ws R : List Nat), (∀ y ∈ ws, f y < 2 ^ 32) →
    pack ((ws ++ R).map f) / 2 ^ (32 * ws.length) = pack (R.map f)
  | [], _, _ => Nat.div_one _
  | w :: ws, R, h => by
    rw [List.length_cons, Nat.mul_succ, Nat.pow_add, Nat.mul_comm, ← Nat.div_div_eq_div_mul,
      show pack ((w :: ws ++ R).map f) / 2 ^ 32 = pack ((ws ++ R).map f) from
        pack_div _ (h w (List.mem_cons_self ..))]
    exact pack_append_div f ws R fun y hy => h y (List.mem_cons_of_mem _ hy)

theorem pack_orbit_div (f : Nat → Nat) (o : Nat) (R : List Nat) (ho : ∀ y ∈ orbit M o, f y < 2 ^ 32) :
    (pack ((orbit M o ++ R).map f)).div 1461501637330902918203684832716283019655932542976 =
      pack (R.map f) := by
  have := pack_append_div f (orbit M o) R ho
  rwa [show (orbit M o).length = 5 from rfl,
    show (2 : Nat) ^ (32 * 5) = 1461501637330902918203684832716283019655932542976 by decide] at this

theorem forGroups_sublist {F : Nat → Nat → Nat → Bool} {f : Nat → Nat} : ∀ {os l : List Nat} {u : Nat},
    (∀ x ∈ os, ∀ y ∈ orbit M x, f y < 2 ^ 32) →
    forGroups F os.length (pack ((os.flatMap (orbit M)).map f))
      (pack ((os.flatMap (orbit M)).map fun _ => 1)) = true → (u :: l).Sublist os →
    ∃ rest, F rest.length (pack (((u :: rest).flatMap (orbit M)).map f))
        (pack (((u :: rest).flatMap (orbit M)).map fun _ => 1)) = true ∧
      l.Sublist rest ∧ rest.Sublist os
  | o :: os, l, u, hf, h, hs => by
    rw [List.length_cons, forGroups] at h
    split at h
    · cases h
    · next hF =>
      cases hs with
      | cons _ hs =>
        rw [List.flatMap_cons, pack_orbit_div f o _ (hf o (List.mem_cons_self ..)),
          pack_orbit_div _ o _ fun _ _ => by decide] at h
        obtain ⟨rest, h1, h2, h3⟩ :=
          forGroups_sublist (fun x hx => hf x (List.mem_cons_of_mem _ hx)) h hs
        exact ⟨rest, h1, h2, h3.cons _⟩
      | cons_cons _ hs => exact ⟨os, hF, hs, List.sublist_cons_self ..⟩

theorem subQ_sound (hM : ∀ w, M w < 2 ^ 30) (k : Nat) : ∀ {B : List (Nat × Nat)} {o : Nat}
    {os : List Nat}, Good B → (∀ pv ∈ B, pv.2 < 2 ^ 30) → o < 2 ^ 30 → (∀ x ∈ os, x < 2 ^ 30) →
    subQ k os.length (pack (((o :: os).flatMap (orbit M)).map (red B)))
      (pack (((o :: os).flatMap (orbit M)).map fun _ => 1)) = true →
    ∀ l : List Nat, l.Sublist os → l.length ≤ k → Free M (vecs B) (o :: l) := by
  induction k with
  | zero =>
    intro B o os hg hB ho _ h l _ hl
    obtain rfl : l = [] := List.eq_nil_of_length_eq_zero (Nat.le_zero.1 hl)
    refine ⟨fun hs => ?_, trivial⟩
    rw [subQ, List.flatMap_cons, show orbit M o = o :: (orbit M o).tail from rfl, List.cons_append,
      List.map_cons, pack_mod _ (lt32 (red_lt hB ho)), hg.red_eq_zero_iff.2 hs] at h
    cases h
  | succ k ih =>
    intro B o os hg hB ho hos h l hs hl
    have horb : ∀ {x : Nat}, x < 2 ^ 30 → ∀ y ∈ orbit M x, y < 2 ^ 30 := fun hx =>
      forall_mem_orbit.2 ⟨hx, hM _, hM _, hM _, hM _⟩
    have hR : ∀ y ∈ os.flatMap (orbit M), y < 2 ^ 30 := fun y hy => by
      obtain ⟨x, hx, hy⟩ := List.mem_flatMap.1 hy
      exact horb (hos x hx) y hy
    -- `elim` inserts the orbit of `o` into `B` and reduces the later orbits by the new basis `B'`
    rw [subQ, List.flatMap_cons, show elim 5 = elim (orbit M o).length from rfl,
      elim_pack (orbit M o) hB fun y hy => (List.mem_append.1 hy).elim (horb ho y) (hR y)] at h
    cases hB' : insAll 30 B (orbit M o) with
    | none => rw [hB'] at h; cases h
    | some B' =>
      obtain ⟨hgB', hB'30, hsp⟩ := insAll_spec hg hB (horb ho) hB'
      refine ⟨fun hs => (insAll_cons hB').1 (hg.red_eq_zero_iff.2 hs),
        Free.anti (fun _ => Span.mono hsp) ?_⟩
      rw [hB', Option.map_some, pack_orbit_div _ o _ fun _ _ => by decide] at h
      match l, hs, hl with
      | [], _, _ => trivial
      | v :: l, hs, hl =>
        have hv := hs.subset (List.mem_cons_self ..)
        cases k with
        | zero =>
          -- the last level: all later vectors (and their orbits) are non-zero after reduction
          obtain rfl : l = [] := List.eq_nil_of_length_eq_zero (by simpa using hl)
          have := allNZ_spec (f := red B') (fun y hy => red_lt hB'30 (hR y hy)) h v
            (List.mem_flatMap.2 ⟨v, hv, List.mem_cons_self ..⟩)
          exact ⟨fun hs => this (hgB'.red_eq_zero_iff.2 hs), trivial⟩
        | succ k =>
          obtain ⟨rest, h1, h2, h3⟩ := forGroups_sublist (f := red B')
            (fun x hx y hy => lt32 (red_lt hB'30 (horb (hos x hx) y hy))) h hs
          exact ih hgB' hB'30 (hos v hv) (fun x hx => hos x (h3.subset hx)) h1 l h2
            (by simpa using hl)

end Sound

end BtcHd.GF2
