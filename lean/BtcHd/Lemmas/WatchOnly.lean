/-
Watch-only wallets (C14).  Three facts carry the property: `ckd` reads only class, key and
chain code of its argument, so derivation respects `view`; neutering commutes with derivation
along normal paths (`C02.derivePub_neuter_of`, with the `IL = 0` exclusion `NoZeroIL` taken only
along the path); and `from_extended_key` on an extended public key builds the node `parsedOf`
(`Lemmas/XKey.lean`), whose `view` is that of the neutered node (`import_xpub`, `view_parsedOf`).
`SamePublic` is the relation the property is stated in.
-/
import BtcHd.Lemmas.Path
import BtcHd.Lemmas.Wallet
import BtcHd.Lemmas.XKey
import BtcHd.Props.C02
import BtcHd.Props.C07
import BtcHd.Props.C18

namespace BtcHd.WatchOnly
open BtcHd Bip32 Keys Wallet

variable {Pt : Type}

/-- the child `c` of some node, with the inherited metadata (class, depth, network, path) taken
from `a` instead -/
def reMeta (a : Node) (i : Nat) (c : Node) : Node :=
  { c with isPrv := a.isPrv, depth := a.depth + 1, testnet := a.testnet, path := a.path ++ [i] }

theorem mkChild_reMeta (a b : Node) (key chain : Bytes) (i : Nat) (fp : Bytes) :
    mkChild a key chain i fp = reMeta a i (mkChild b key chain i fp) := rfl

/-- the fields of a node that BIP32 serialises (besides the version) plus its class -/
structure View where
  isPrv : Bool
  key : Bytes
  chainCode : Bytes
  depth : Nat
  index : Nat
  parentFingerprint : Bytes
deriving DecidableEq

def view (nd : Node) : View :=
  ⟨nd.isPrv, nd.key, nd.chainCode, nd.depth, nd.index, parentFingerprint nd⟩

theorem view_eq_iff {a b : Node} : view a = view b ↔
    a.isPrv = b.isPrv ∧ a.key = b.key ∧ a.chainCode = b.chainCode ∧ a.depth = b.depth ∧
      a.index = b.index ∧ parentFingerprint a = parentFingerprint b := by
  unfold view
  rw [View.mk.injEq]

theorem ckd_view_congr (P : Prims Pt) {a b : Node} (h : view a = view b) (i : Nat) :
    (ckd P a i).map view = (ckd P b i).map view := by
  obtain ⟨hp, hk, hc, hd, _, _⟩ := view_eq_iff.mp h
  rw [ckd_eq_map P hp hk hc (mkChild_reMeta a b · · i ·)]
  cases hb : ckd P b i with
  | none => rfl
  | some c =>
    obtain ⟨key, chain, fp, rfl⟩ := ckd_eq_mkChild hb
    simp only [Option.map_some, view, reMeta, mkChild, parentFingerprint, hp, hd]

theorem derivePath_view_congr (P : Prims Pt) (is : List Nat) {a b : Node} (h : view a = view b) :
    (derivePath P a is).map view = (derivePath P b is).map view := by
  induction is generalizing a b with
  | nil => exact congrArg some h
  | cons i is ih =>
    have hstep := ckd_view_congr P h i
    rw [derivePath_cons, derivePath_cons]
    cases ha : ckd P a i <;> cases hb : ckd P b i <;>
      simp only [ha, hb, Option.map_none, Option.map_some, Option.some.injEq, reduceCtorEq] at hstep
    · rfl
    · exact ih hstep

/-- the two definitions of the public view (`C02.neuter` through the scalar, `Bip32.neuter`
through `public_key`) coincide on private nodes -/
theorem neuter_eq_C02 (P : Prims Pt) {nd : Node} (hp : nd.isPrv = true) :
    Bip32.neuter P nd = C02.neuter P nd := by
  unfold Bip32.neuter C02.neuter pubKey
  rw [if_pos hp, Option.map_map]
  rfl

theorem pubKey_neuter (P : Prims Pt) (L : C02.GroupLaws P) {c c' : Node} (hp : c.isPrv = true)
    (h : C02.neuter P c = some c') : pubKey P c' = pubKey P c := by
  obtain ⟨k, hk, rfl⟩ := Option.map_eq_some_iff.mp h
  obtain ⟨h1, h2⟩ := prvKey_range hk
  rw [pubKey_of_prvKey hp hk]
  exact (pubKey_of_pub rfl).trans (L.parse_sec _ (C02.mulGen_notInf P L h1 h2))

theorem ckd_prv (P : Prims Pt) {nd : Node} (hp : nd.isPrv = true) (i : Nat) :
    ckd P nd i = ckdPrv P nd i :=
  ckd_eq_ckdPrv P hp i

theorem ckd_pub (P : Prims Pt) {nd : Node} (hp : nd.isPrv = false) (i : Nat) :
    ckd P nd i = ckdPub P nd i :=
  ckd_eq_ckdPub P hp i

/-- the `IL = 0` exclusion, only for the steps actually taken along a path from `nd` -/
def NoZeroIL (P : Prims Pt) : Node → List Nat → Prop
  | _, [] => True
  | nd, i :: is => (∀ k, prvKey P nd = some k → C02.IL P nd k i ≠ 0) ∧
      ∀ c, ckdPrv P nd i = some c → NoZeroIL P c is

theorem NoZeroIL_of_global (P : Prims Pt) (is : List Nat)
    (hIL : ∀ (nd' : Node) (k' i : Nat), prvKey P nd' = some k' → i ∈ is → C02.IL P nd' k' i ≠ 0)
    (nd : Node) : NoZeroIL P nd is := by
  induction is generalizing nd with
  | nil => trivial
  | cons i is ih =>
    exact ⟨fun k hk => hIL nd k i hk (List.mem_cons_self ..),
      fun c _ => ih (fun nd' k' j hk' hj => hIL nd' k' j hk' (List.mem_cons_of_mem _ hj)) c⟩

theorem byPath_wo_hardened (P : Prims Pt) {w : Wallet} (hw : w.master.isPrv = false)
    (s : List Char) (h : ∀ p, Path.parse s = some p → ∃ i ∈ p.levels, 2 ^ 31 ≤ i) :
    byPath P w s = none := by
  unfold byPath
  cases hp : Path.parse s with
  | none => rfl
  | some p => exact C02.derivePub_hardened P _ (h p hp) _ hw

theorem wasabi_wo (P : Prims Pt) {w : Wallet} (hw : w.master.isPrv = false) : wasabi P w = none := by
  unfold wasabi
  rw [byPath_wasabi, C02.derivePub_hardened P _ ⟨2 ^ 31, by simp, Nat.le_refl _⟩ _ hw]
  rfl

/-- only the first five components count: `Path.parse` reads no further -/
theorem parse_marked_hardened {s root c d : List Char} {comps : List (List Char)} {m : Char}
    (hs : Text.splitOn '/' s = root :: comps) (hc : c ∈ comps.take 5) (hcd : c = d ++ [m])
    (hm : m = '\'' ∨ m = 'h') {p : Path.Path} (hp : Path.parse s = some p) :
    ∃ i ∈ p.levels, 2 ^ 31 ≤ i := by
  rw [Path.parse_of_splitOn hs] at hp
  rcases Path.parseParts_some_mem hp hc with h0 | ⟨v, hv, hcv⟩
  · rw [hcd] at h0; simp at h0
  · refine ⟨v, hv, ?_⟩
    rw [hcd, Path.convertHardened_marked hm, Path.parseDec_bind_eq_some] at hcv
    omega

/-- xpub, ypub, zpub, tpub, upub, vpub: the `keyType = 1` rows of `Generated.versionsMain` / `versionsTest`
(`keyType_iff`) -/
def publicVersions : List Nat :=
  [0x0488B21E, 0x049D7CB2, 0x04B24746, 0x043587CF, 0x044A5262, 0x045F1CF6]

/-- tpub, upub, vpub -/
def testnetPublicVersions : List Nat := [0x043587CF, 0x044A5262, 0x045F1CF6]

theorem parse_publicVersions : ∀ v ∈ publicVersions, ∃ ver, Path.Version.parse v = some ver ∧
    ver.keyType = 1 ∧ ver.testnet = decide (v ∈ testnetPublicVersions) := by decide

private theorem keyType_table : ∀ v ∈ Path.allVersions, (Path.Version.parse v).all fun ver =>
    (decide (ver.keyType = 1) == decide (v ∈ publicVersions)) &&
      (decide (ver.keyType = 0) == decide (v ∉ publicVersions)) := by decide

theorem keyType_iff {v : Nat} {ver : Path.Version} (h : Path.Version.parse v = some ver) :
    (ver.keyType = 1 ↔ v ∈ publicVersions) ∧ (ver.keyType = 0 ↔ v ∉ publicVersions) := by
  have := keyType_table v ((C07.version_parse_isSome_iff v).mp (by rw [h]; rfl))
  rw [h] at this
  simpa only [Option.all_some, Bool.and_eq_true, beq_iff_eq, decide_eq_decide] using this

theorem nodeVersionInt_pub {w : Wallet} {nd : Node} {v : Nat} (h : nodeVersionInt w nd 1 = some v) :
    ∃ b, Path.Version.parse v = some ⟨1, b, w.testnet⟩ := by
  unfold nodeVersionInt at h
  obtain ⟨p, _, hp⟩ := Option.bind_eq_some_iff.mp h
  have hb : Path.bipOf p ∈ [0, 1, 2] := by
    unfold Path.bipOf
    split
    · split_ifs <;> decide
    · decide
  have := C07.version_parse_toInt 1 (by simp) (Path.bipOf p) hb w.testnet
  rw [hp] at this
  exact ⟨_, this⟩

theorem view_parsedOf {N : Node} (hf : (parentFingerprint N).length = 4) (hvalid : BIP32valid N)
    (t : Bool) (key : Bytes) (v : Nat) :
    view (parsedOf false t N key v) = view { N with isPrv := false, key := key } :=
  view_eq_iff.mpr ⟨rfl, rfl, rfl, rfl, rfl,
    (XKey.parentFingerprint_parsedOf false t key v hf).trans (XKey.fpField_eq_of_valid hvalid)⟩

/-- `from_extended_key(N.extended_public_key(version=v))` for `v` one of the six public versions: the master of the
wallet is `parsedOf …`, which looks like the public view of `N` -/
theorem import_xpub {P : Prims Pt} {N : Node} (hC : CurveLaws P.curve)
    (hlen : ∀ x, 4 ≤ (P.hash256 x).length) (hwf : N.WF P) (hvalid : BIP32valid N) {v : Nat}
    (hv : v ∈ publicVersions) {s : List Char} (hs : extendedPublicKey P N (some v) = some s) :
    ∃ K, pubKey P N = some K ∧ (P.curve.sec true K).length = 33 ∧ ¬ P.curve.isInf K ∧
      fromExtendedKey P s = some
        ⟨parsedOf false (decide (v ∈ testnetPublicVersions)) N (P.curve.sec true K) v,
          decide (v ∈ testnetPublicVersions), none, none⟩ ∧
      view (parsedOf false (decide (v ∈ testnetPublicVersions)) N (P.curve.sec true K) v) =
        view { N with isPrv := false, key := P.curve.sec true K } := by
  obtain ⟨ver, hver, hkt, ht⟩ := parse_publicVersions v hv
  obtain ⟨ser, hser, rfl⟩ := Option.map_eq_some_iff.mp hs
  obtain ⟨K, hK, hl, hinf, _⟩ := XKey.pubKey_wf hC hwf
  rw [serializePublic, hK] at hser
  refine ⟨K, hK, hl, hinf, ?_, view_parsedOf hwf.fp_len hvalid _ _ v⟩
  rw [XKey.fromExtendedKey_of_version P hlen (XKey.serializeWith_version hser) hver,
    XKey.parseBytes_serializeWith _ _ hwf.chain_len hwf.fp_len hl hser, hkt, ht]
  rfl

/-- `c'` (watch-only side) and `c` (full side) carry the same public data: chain code, depth,
child number, parent fingerprint and public key -/
structure SamePublic (P : Prims Pt) (c' c : Node) : Prop where
  chainCode_eq : c'.chainCode = c.chainCode
  depth_eq : c'.depth = c.depth
  index_eq : c'.index = c.index
  parentFingerprint_eq : parentFingerprint c' = parentFingerprint c
  pubKey_eq : pubKey P c' = pubKey P c

theorem SamePublic.of_view (P : Prims Pt) {a b : Node} (h : view a = view b) : SamePublic P a b := by
  obtain ⟨hp, hk, hc, hd, hi, hf⟩ := view_eq_iff.mp h
  exact ⟨hc, hd, hi, hf, by unfold pubKey prvKey; rw [hp, hk]⟩

theorem SamePublic.trans {P : Prims Pt} {a b c : Node} (h1 : SamePublic P a b)
    (h2 : SamePublic P b c) : SamePublic P a c :=
  ⟨h1.chainCode_eq.trans h2.chainCode_eq, h1.depth_eq.trans h2.depth_eq, h1.index_eq.trans h2.index_eq,
    h1.parentFingerprint_eq.trans h2.parentFingerprint_eq, h1.pubKey_eq.trans h2.pubKey_eq⟩

theorem SamePublic.of_neuter (P : Prims Pt) (L : C02.GroupLaws P) {c c' : Node}
    (hp : c.isPrv = true) (h : C02.neuter P c = some c') : SamePublic P c' c := by
  have hk := pubKey_neuter P L hp h
  obtain ⟨k, _, rfl⟩ := Option.map_eq_some_iff.mp h
  exact ⟨rfl, rfl, rfl, rfl, hk⟩

theorem serializeWith_fpField (nd : Node) (key : Bytes) (v : Nat) :
    serializeWith nd key v =
      (toBytesBE 4 v).bind fun v4 => (toBytesBE 1 nd.depth).bind fun d1 =>
        (toBytesBE 4 nd.index).map fun i4 =>
          v4 ++ d1 ++ fpField nd ++ i4 ++ nd.chainCode ++ key := rfl

/-! ### public nodes hold no scalar, so BIP85 has nothing to work with -/

/-- the key bytes look like a compressed public key: 33 bytes starting with 02 or 03 -/
def PubKeyShaped (c : Node) : Prop :=
  c.key.length = 33 ∧ (c.key.head? = some 2 ∨ c.key.head? = some 3)

theorem prvKey_none_of_shaped (P : Prims Pt) {c : Node} (h : PubKeyShaped c) : prvKey P c = none := by
  unfold prvKey
  rw [if_neg]
  · exact mkPriv_eq_none.mpr (Or.inl (by rw [h.1]; omega))
  · rintro ⟨_, h0⟩
    rcases h.2 with h2 | h2 <;> rw [h0] at h2 <;> cases h2

theorem shaped_of_sec {P : Prims Pt} (hC : CurveLaws P.curve) {c : Node} {pt : Pt}
    (hinf : ¬ P.curve.isInf pt) (hkey : c.key = P.curve.sec true pt) : PubKeyShaped c := by
  unfold PubKeyShaped
  rw [hkey]
  exact ⟨hC.sec_len _ hinf, hC.sec_prefix _ hinf⟩

theorem shaped_of_wf (P : Prims Pt) (hC : CurveLaws P.curve) {c : Node} (hwf : c.WF P)
    (hc : c.isPrv = false) : PubKeyShaped c := by
  obtain ⟨hl, pt, hpt⟩ := hwf.key_pub hc
  exact shaped_of_sec hC (hC.parse_notInf _ _ hpt) (hC.sec_parse _ _ hl hpt).symm

theorem derivePath_shaped (P : Prims Pt) (hC : CurveLaws P.curve) (is : List Nat) {m c : Node}
    (hm : m.isPrv = false) (hs : PubKeyShaped m) (h : derivePath P m is = some c) :
    PubKeyShaped c := by
  refine (derivePath_induction (Q := fun _ c => c.isPrv = false ∧ PubKeyShaped c)
    (fun _ nd i c ⟨hp, _⟩ hc => ⟨(ckd_fields hc).1.trans hp, ?_⟩) ⟨hm, hs⟩ h).2
  rw [ckd_eq_ckdPub P hp] at hc
  obtain ⟨_, _, K, _, hinf, hkey⟩ := C18.ckdPub_child_valid P nd c i hc
  exact shaped_of_sec hC (by rw [hinf]; simp) hkey

theorem bip85_entropy_public (P : Prims Pt) (hC : CurveLaws P.curve) {m : Node}
    (hm : m.isPrv = false) (hs : PubKeyShaped m) (path : List Char) :
    Bip85.entropy P m path = none := by
  refine Option.eq_none_iff_forall_ne_some.mpr fun e he => ?_
  obtain ⟨p, _, he⟩ := Option.bind_eq_some_iff.mp he
  obtain ⟨c, hd, he⟩ := Option.bind_eq_some_iff.mp he
  rw [prvKey_none_of_shaped P (derivePath_shaped P hC _ hm hs hd)] at he
  cases he

end BtcHd.WatchOnly
