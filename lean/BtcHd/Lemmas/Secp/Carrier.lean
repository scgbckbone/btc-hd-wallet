/-
The carrier of valid secp256k1 points and the concrete curve `vCurve : Curve VPt` whose fields are
the functions of `Prims/Secp256k1.lean` restricted to valid points, the driver's bundle `vPrims` over it,
and the embedding of the carrier into Mathlib's point group.
-/
import BtcHd.Lemmas.Secp.Group
import BtcHd.Lemmas.Secp.Encoding
import BtcHd.Model.Curve
import BtcHd.Prims.Sha

namespace BtcHd.Real.Secp
open BtcHd

/-- valid points: infinity, or `(x, y)` with `x, y < p` and `y² ≡ x³ + 7 (mod p)` -/
abbrev VPt : Type := {q : Pt // Valid q}

/-- the concrete secp256k1 of the driver, restricted to valid points (same underlying values) -/
def vCurve : Curve VPt where
  n := n
  mulGen k := ⟨mulGen k, (mulGen_spec k).1⟩
  add a b := ⟨add a.1 b.1, (add_spec a.2 b.2).1⟩
  isInf q := q.1.isNone
  sec c q := sec c q.1
  parse bs := (parse bs).pmap (fun q h => (⟨q, h⟩ : VPt)) (fun _ hq => (parse_valid hq).1)

@[simp] theorem vCurve_n : vCurve.n = n := rfl
@[simp] theorem vCurve_mulGen_val (k : Nat) : (vCurve.mulGen k).1 = mulGen k := rfl
@[simp] theorem vCurve_add_val (a b : VPt) : (vCurve.add a b).1 = add a.1 b.1 := rfl
@[simp] theorem vCurve_isInf (q : VPt) : vCurve.isInf q = q.1.isNone := rfl

theorem vCurve_parse_val (bs : Bytes) : (vCurve.parse bs).map Subtype.val = parse bs := by
  show ((parse bs).pmap _ _).map _ = _
  rw [Option.map_pmap, Option.pmap_eq_map, Option.map_id']

theorem vCurve_parse_eq_some {bs : Bytes} {q : VPt} : vCurve.parse bs = some q ↔ parse bs = some q.1 := by
  show (parse bs).pmap _ _ = some q ↔ _
  rw [Option.pmap_eq_some_iff]
  exact ⟨fun ⟨_, _, h, e⟩ => e ▸ h, fun h => ⟨q.1, q.2, h, rfl⟩⟩

/-- the driver's primitives over the carrier of valid points (`nfkd` is the table the driver loads) -/
def vPrims (nfkd : List Char → List Char) : Prims VPt where
  sha256 := Real.sha256
  hmac512 := Real.hmacSha512
  pbkdf2 := Real.pbkdf2Sha512
  nfkd := nfkd
  curve := vCurve

/-- embedding of valid points into Mathlib's point group -/
noncomputable def toPoint (q : VPt) : E := toPointD q.1

theorem toPoint_injective : Function.Injective toPoint :=
  fun a b h => Subtype.ext (toPointD_inj a.2 b.2 h)

theorem toPoint_eq_zero_iff (q : VPt) : toPoint q = 0 ↔ vCurve.isInf q = true := by
  rw [toPoint, toPointD_eq_zero_iff q.2, vCurve_isInf, Option.isNone_iff_eq_none]

theorem toPoint_add (a b : VPt) : toPoint (vCurve.add a b) = toPoint a + toPoint b :=
  (add_spec a.2 b.2).2

open WeierstrassCurve.Affine in
theorem toPoint_surjective : Function.Surjective toPoint := by
  intro P
  match P with
  | .zero => exact ⟨⟨none, trivial⟩, rfl⟩
  | .some x y h =>
    obtain ⟨hv, he⟩ := toPointD_of_cast (ZMod.val_lt x) (ZMod.val_lt y) (ZMod.natCast_zmod_val x)
      (ZMod.natCast_zmod_val y) h
    exact ⟨⟨_, hv⟩, he⟩

theorem toPoint_bijective : Function.Bijective toPoint := ⟨toPoint_injective, toPoint_surjective⟩

theorem vCurve_add_comm (a b : VPt) : vCurve.add a b = vCurve.add b a :=
  toPoint_injective (by rw [toPoint_add, toPoint_add, add_comm])

theorem vCurve_add_assoc (a b c : VPt) :
    vCurve.add (vCurve.add a b) c = vCurve.add a (vCurve.add b c) :=
  toPoint_injective (by simp only [toPoint_add, add_assoc])

end BtcHd.Real.Secp
