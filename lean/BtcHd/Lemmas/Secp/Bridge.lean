/-
Bridge between the curve the driver actually runs (`rawCurve`/`rawPrims` over raw
`Option (Nat × Nat)`, defined in `Prims/Bundle.lean` and used verbatim by `Driver/Main.lean`) and the carrier of valid
points (`vCurve`/`vPrims`) for which `CurveLaws`/`GroupLaws` are proved: the BIP32 layer of the model
computes the same bytes with either, because it only ever creates points with `parse`/`mulGen`/`add`.
-/
import BtcHd.Lemmas.Secp.Carrier
import BtcHd.Lemmas.Bip32
import BtcHd.Prims.Bundle

namespace BtcHd.Real.Secp
open BtcHd Bip32 Keys

-- `f` is the NFKD table (`nfkd` elsewhere)
variable (f : List Char → List Char)

theorem bridge_parse (bs : Bytes) :
    ((vPrims f).curve.parse bs).map Subtype.val = (rawPrims f).curve.parse bs :=
  vCurve_parse_val bs

theorem bridge_pubKey (nd : Node) :
    (pubKey (vPrims f) nd).map Subtype.val = pubKey (rawPrims f) nd := by
  unfold pubKey
  by_cases h : nd.isPrv = true
  · rw [if_pos h, if_pos h, Option.map_map]; rfl
  · rw [if_neg h, if_neg h]; exact bridge_parse f nd.key

theorem bridge_fingerprint (nd : Node) : fingerprint (vPrims f) nd = fingerprint (rawPrims f) nd := by
  unfold fingerprint
  rw [← bridge_pubKey, Option.map_map]; rfl

theorem bridge_masterKey (seed : Bytes) (t : Bool) :
    masterKey (vPrims f) seed t = masterKey (rawPrims f) seed t := rfl

theorem bridge_ckdPrv (nd : Node) (i : Nat) : ckdPrv (vPrims f) nd i = ckdPrv (rawPrims f) nd i := rfl

theorem bridge_ckdPub (nd : Node) (i : Nat) : ckdPub (vPrims f) nd i = ckdPub (rawPrims f) nd i := by
  unfold ckdPub
  rw [← bridge_parse f nd.key]
  cases (vPrims f).curve.parse nd.key <;> rfl

theorem bridge_ckd : ckd (vPrims f) = ckd (rawPrims f) := by
  funext nd i
  unfold ckd; rw [bridge_ckdPrv, bridge_ckdPub]

theorem bridge_derivePath (nd : Node) (is : List Nat) :
    derivePath (vPrims f) nd is = derivePath (rawPrims f) nd is := by
  rw [derivePath_eq_foldlM, derivePath_eq_foldlM, bridge_ckd]

theorem bridge_generateChildren (nd : Node) (a b : Nat) :
    generateChildren (vPrims f) nd a b = generateChildren (rawPrims f) nd a b := by
  unfold generateChildren
  rw [bridge_ckd]

theorem bridge_serializePublic (nd : Node) (v : Option Nat) :
    serializePublic (vPrims f) nd v = serializePublic (rawPrims f) nd v := by
  unfold serializePublic
  rw [← bridge_pubKey]
  cases pubKey (vPrims f) nd <;> rfl

theorem bridge_serializePrivate (nd : Node) (v : Option Nat) :
    serializePrivate (vPrims f) nd v = serializePrivate (rawPrims f) nd v := rfl

end BtcHd.Real.Secp
