/-
SEC encoding / parsing round trips for the concrete secp256k1 model (no group theory):
`parse (sec c pt) = some pt` for on-curve points (both forms) and uniqueness of the 33-byte form.
-/
import BtcHd.Lemmas.Secp.Field
import BtcHd.Lemmas.RealSecp
import BtcHd.Lemmas.BeFixed

namespace BtcHd.Real.Secp
open BtcHd BeFixed

theorem sec_true (x y : Nat) :
    sec true (some (x, y)) = (if y % 2 = 0 then 2 else 3) :: beFixed 32 x := rfl

theorem sqrt?_eq_some {a r : Nat} :
    sqrt? a = some r ↔ powMod a ((p + 1) / 4) p = r ∧ r * r % p = a % p := by
  show (if _ then some _ else none) = some r ↔ _
  split
  · next h => exact ⟨fun e => Option.some.inj e ▸ ⟨rfl, h⟩, fun e => e.1 ▸ rfl⟩
  · next h => exact ⟨nofun, fun e => absurd (e.1 ▸ e.2) h⟩

theorem sqrt?_lt {a r : Nat} (h : sqrt? a = some r) : r < p :=
  (sqrt?_eq_some.mp h).1 ▸ powMod_lt _ _ _ one_lt_p

theorem sqrt?_of_sq {a y : Nat} (h : (a : F) = (y : F) ^ 2) :
    ∃ r, sqrt? a = some r ∧ (r : F) ^ 2 = (y : F) ^ 2 := by
  have hr : ((powMod a ((p + 1) / 4) p : Nat) : F) ^ 2 = (y : F) ^ 2 := by
    rw [cast_powMod _ _ (by decide +kernel), h, sqrt_pow_sq]
  refine ⟨_, sqrt?_eq_some.mpr ⟨rfl, ?_⟩, hr⟩
  rw [← ZMod.natCast_eq_natCast_iff', Nat.cast_mul, ← pow_two, hr, h]

/-- the parity request `c` is compared as a proposition because the model's `parse` writes the test so:
`if (y % 2 = 1) = (pre = 3) then y else p - y` -/
theorem pick_parity {q r : Nat} (hq : q % 2 = 1) (hr : r < q) (c : Prop) [Decidable ((r % 2 = 1) = c)] :
    (if (r % 2 = 1) = c then r else q - r) % 2 = 1 ↔ c := by
  split
  · next h => rw [h]
  · next h =>
    rw [← not_iff.mp fun e => h (propext e)]
    omega

theorem pick_eq {q r y : Nat} (hq : q % 2 = 1) (hroot : r = y ∨ r + y = q)
    (c : Prop) [Decidable ((r % 2 = 1) = c)] (hc : c ↔ y % 2 = 1) :
    (if (r % 2 = 1) = c then r else q - r) = y := by
  rcases hroot with rfl | h
  · rw [if_pos (propext hc.symm)]
  · rw [if_neg fun e => by rw [← e] at hc; omega]; omega

theorem parse_33_iff {bs : Bytes} {pt : Pt} (hl : bs.length = 33) :
    parse bs = some pt ↔ ∃ x y, onCurve x y = true ∧ pt = some (x, y) ∧ sec true pt = bs := by
  match bs, hl with
  | pre :: rest, hl =>
    have hrl : rest.length = 32 := by simpa using hl
    rw [parse_33 hl]
    constructor
    · rintro ⟨hpre, hx, r, hs, hxy⟩
      obtain ⟨rfl, hc⟩ := xyf_eq_some.mp hxy
      refine ⟨_, _, hc, rfl, ?_⟩
      have hpar := pick_parity p_odd (sqrt?_lt hs) (pre = 3)
      rw [sec_true, beFixed_beToNat hrl]
      rcases hpre with rfl | rfl
      · rw [if_pos (by have := hpar.not.mpr (by decide); omega)]
      · rw [if_neg (by have := hpar.mpr rfl; omega)]
    · rintro ⟨x, y, hc, rfl, hsec⟩
      obtain ⟨hx, hy, heq⟩ := (onCurve_iff x y).mp hc
      obtain ⟨r, hs, hsq⟩ := sqrt?_of_sq (a := (x * x % p * x + 7) % p) (y := y)
        (by rw [heq]; push_cast; ring)
      obtain ⟨rfl, rfl⟩ := List.cons.inj hsec
      rw [beToNat_beFixed (hx.trans p_lt), hs]
      refine ⟨by split <;> simp, hx, r, rfl, ?_⟩
      rw [pick_eq p_odd (eq_or_add_eq_p_of_sq_eq (sqrt?_lt hs) hy hsq) _ (by split <;> simp <;> omega)]
      exact xyf_eq_some.mpr ⟨rfl, hc⟩

theorem sec_len_some (x y : Nat) : (sec true (some (x, y))).length = 33 := by
  rw [sec_true, List.length_cons, beFixed_length]

/-- `from_string(to_string(enc))` returns the point, for both encodings of any on-curve point -/
theorem parse_sec_onCurve (c : Bool) {x y : Nat} (h : onCurve x y = true) :
    parse (sec c (some (x, y))) = some (some (x, y)) := by
  cases c with
  | true => exact (parse_33_iff (sec_len_some x y)).mpr ⟨x, y, h, rfl, rfl⟩
  | false =>
    obtain ⟨hx, hy, _⟩ := (onCurve_iff x y).mp h
    rw [show sec false (some (x, y)) = 4 :: (beFixed 32 x ++ beFixed 32 y) from rfl,
      parse_65 (by simp [beFixed_length]), List.take_left' (beFixed_length 32 x),
      List.drop_left' (beFixed_length 32 x), beToNat_beFixed (hx.trans p_lt),
      beToNat_beFixed (hy.trans p_lt)]
    exact ⟨.inl rfl, xyf_eq_some.mpr ⟨rfl, h⟩⟩

theorem sec_prefix_some (x y : Nat) :
    (sec true (some (x, y))).head? = some 2 ∨ (sec true (some (x, y))).head? = some 3 := by
  rw [sec_true]
  split
  · exact .inl rfl
  · exact .inr rfl

theorem parse_valid {bs : Bytes} {pt : Pt} (h : parse bs = some pt) : Valid pt ∧ pt ≠ none := by
  obtain ⟨⟨x, y, rfl, hc⟩, _⟩ := parse_sound bs pt h
  exact ⟨hc, by simp⟩

end BtcHd.Real.Secp
