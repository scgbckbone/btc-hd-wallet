/-
The model's `Nat` arithmetic modulo `p` read in the field `F = ZMod p`: under the cast, `% p`, `sub`, `inv` and the
square root `a ^ ((p + 1) / 4)` are field operations, and `onCurve` is the curve equation.
-/
import BtcHd.Lemmas.Secp.Primes
import Mathlib.FieldTheory.Finite.Basic

namespace BtcHd.Real.Secp

instance fact_p_prime : Fact (Nat.Prime p) := ⟨p_prime⟩

/-- the base field of secp256k1 -/
abbrev F : Type := ZMod p

theorem p_pos : 0 < p := p_prime.pos
theorem one_lt_p : 1 < p := p_prime.one_lt
theorem p_lt : p < 2 ^ 256 := by decide +kernel
theorem one_lt_n : 1 < n := n_prime.one_lt
theorem n_lt : n < 2 ^ 256 := by decide +kernel
theorem p_mod_four : p % 4 = 3 := by decide +kernel
theorem p_odd : p % 2 = 1 := by have := p_mod_four; omega

/-! `push_cast` turns the cast of a model expression (`* % p`, `sub`, `inv`) into field arithmetic. -/

@[push_cast] theorem cast_mod (a : Nat) : ((a % p : Nat) : F) = (a : F) := ZMod.natCast_mod a p

@[push_cast] theorem cast_sub (a b : Nat) : ((sub a b : Nat) : F) = (a : F) - (b : F) := by
  have h : b % p ≤ a + p := (Nat.mod_lt b p_pos).le.trans (Nat.le_add_left p a)
  rw [sub, cast_mod, Nat.cast_sub h, Nat.cast_add, cast_mod, ZMod.natCast_self, add_zero]

theorem sub_lt (a b : Nat) : sub a b < p := Nat.mod_lt _ p_pos

theorem cast_inj {a b : Nat} (ha : a < p) (hb : b < p) : ((a : F) = (b : F)) ↔ a = b := by
  rw [ZMod.natCast_eq_natCast_iff', Nat.mod_eq_of_lt ha, Nat.mod_eq_of_lt hb]

theorem cast_eq_zero {a : Nat} (ha : a < p) : ((a : F) = 0) ↔ a = 0 := by
  rw [← Nat.cast_zero, cast_inj ha p_pos]

/-- the model's comparisons of reduced values are `v - u = 0` in `F` -/
theorem cast_sub_eq_zero {u v : Nat} (hu : u < p) (hv : v < p) : ((sub v u : Nat) : F) = 0 ↔ u = v := by
  rw [cast_sub, sub_eq_zero, cast_inj hv hu, eq_comm]

theorem cast_ne_zero {a : Nat} (h0 : a ≠ 0) (ha : a < p) : (a : F) ≠ 0 := (cast_eq_zero ha).not.mpr h0

theorem two_ne_zero_F : (2 : F) ≠ 0 := cast_ne_zero (a := 2) (by decide) (by decide +kernel)

theorem three_ne_zero_F : (3 : F) ≠ 0 := cast_ne_zero (a := 3) (by decide) (by decide +kernel)

theorem cast_powMod (a e : Nat) (he : e < 2 ^ 256) : ((powMod a e p : Nat) : F) = (a : F) ^ e := by
  rw [powMod_eq a e p he one_lt_p, cast_mod, Nat.cast_pow]

@[push_cast] theorem cast_inv (a : Nat) : ((inv a : Nat) : F) = (a : F)⁻¹ := by
  rw [inv, cast_powMod a (p - 2) (by have := p_lt; omega)]
  by_cases h : (a : F) = 0
  · rw [h, inv_zero, zero_pow (by decide +kernel)]
  · refine eq_inv_of_mul_eq_one_left ?_
    rw [← pow_succ, show p - 2 + 1 = p - 1 by have := one_lt_p; omega, ZMod.pow_card_sub_one_eq_one h]

theorem inv_lt (a : Nat) : inv a < p := powMod_lt _ _ _ one_lt_p

/-- the candidate square root squares to `a` whenever `a` is a square (`p ≡ 3 mod 4`) -/
theorem sqrt_pow_sq (y : F) : ((y ^ 2) ^ ((p + 1) / 4)) ^ 2 = y ^ 2 := by
  have hp : 2 * ((p + 1) / 4 * 2) = p + 1 := by have := p_mod_four; omega
  rw [← pow_mul, ← pow_mul, hp, pow_succ, ZMod.pow_card, ← pow_two]

theorem eq_or_add_eq_p_of_sq_eq {r y : Nat} (hr : r < p) (hy : y < p) (h : (r : F) ^ 2 = (y : F) ^ 2) :
    r = y ∨ r + y = p := by
  rcases sq_eq_sq_iff_eq_or_eq_neg.mp h with h | h
  · exact .inl ((cast_inj hr hy).mp h)
  · have hd : p ∣ r + y := (ZMod.natCast_eq_zero_iff _ _).mp (by rw [Nat.cast_add, h, neg_add_cancel])
    by_cases h0 : r + y = 0
    · exact .inl (by omega)
    · exact .inr (Nat.eq_of_dvd_of_lt_two_mul h0 hd (by omega))

def Valid : Pt → Prop
  | none => True
  | some (x, y) => onCurve x y = true

theorem onCurve_iff (x y : Nat) :
    onCurve x y = true ↔ x < p ∧ y < p ∧ (y : F) ^ 2 = (x : F) ^ 3 + 7 := by
  unfold onCurve
  simp only [Bool.and_eq_true, decide_eq_true_eq, and_assoc]
  refine and_congr_right fun _ => and_congr_right fun _ => ?_
  rw [← ZMod.natCast_eq_natCast_iff']; push_cast
  constructor <;> intro h <;> linear_combination h

end BtcHd.Real.Secp
