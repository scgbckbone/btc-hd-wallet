/-
Primality of the secp256k1 field prime `p` and group order `n` by a Pratt certificate
(the large factorisations were found with sympy; the whole table is evaluated by the Lean kernel).
-/
import BtcHd.Lemmas.Secp.Pratt

namespace BtcHd.Real.Secp

/-- The Pratt certificate of `p` and `n`, rows `(q, a, prime factors of q - 1)` in decreasing order of `q`:
`a` is a primitive root modulo `q`, and each listed factor has a row of its own further down. -/
def prattTable : List (Nat × Nat × List Nat) := [
  (p, 3, [2, 3, 7, 13441, 205115282021455665897114700593932402728804164701536103180137503955397371]),
  (n, 7, [2, 3, 149, 631, 107361793816595537, 174723607534414371449, 341948486974166000522343609283189]),
  (205115282021455665897114700593932402728804164701536103180137503955397371, 10,
    [2, 3, 5, 29, 31, 7723, 132896956044521568488119, 255515944373312847190720520512484175977]),
  (255515944373312847190720520512484175977, 3,
    [2, 7, 11, 1627, 2657, 4423, 41201, 96557, 7240687, 107590001]),
  (341948486974166000522343609283189, 2, [2, 3, 109, 29047611873442575647497758179]),
  (29047611873442575647497758179, 2, [2, 293, 305873, 545358713, 297159362677]),
  (132896956044521568488119, 6, [2, 3, 22149492674086928081353]),
  (22149492674086928081353, 5, [2, 3, 5323, 173378833005251801]),
  (174723607534414371449, 3, [2, 17, 59, 4051, 120233, 44706919]),
  (173378833005251801, 6, [2, 5, 2621, 24809, 13331831]),
  (107361793816595537, 3, [2, 16699, 85831, 4681609]), (297159362677, 2, [2, 3, 11, 461, 1627771]),
  (545358713, 5, [2, 41, 59, 28181]), (107590001, 3, [2, 5, 7, 29, 53]),
  (44706919, 6, [2, 3, 797, 9349]), (13331831, 13, [2, 5, 971, 1373]),
  (7240687, 3, [2, 3, 1206781]), (4681609, 23, [2, 3, 97, 2011]), (1627771, 3, [2, 3, 5, 29, 1871]),
  (1206781, 10, [2, 3, 5, 20113]), (305873, 3, [2, 7, 2731]), (120233, 3, [2, 7, 19, 113]),
  (96557, 2, [2, 101, 239]), (85831, 3, [2, 3, 5, 2861]), (41201, 3, [2, 5, 103]),
  (28181, 2, [2, 5, 1409]), (24809, 6, [2, 7, 443]), (20113, 10, [2, 3, 419]),
  (16699, 3, [2, 3, 11, 23]), (13441, 11, [2, 3, 5, 7]), (9349, 2, [2, 3, 19, 41]),
  (7723, 3, [2, 3, 11, 13]), (5323, 5, [2, 3, 887]), (4423, 3, [2, 3, 11, 67]),
  (4051, 10, [2, 3, 5]), (2861, 2, [2, 5, 11, 13]), (2731, 3, [2, 3, 5, 7, 13]), (2657, 3, [2, 83]),
  (2621, 2, [2, 5, 131]), (2011, 3, [2, 3, 5, 67]), (1871, 14, [2, 5, 11, 17]),
  (1627, 3, [2, 3, 271]), (1409, 3, [2, 11]), (1373, 2, [2, 7]), (971, 6, [2, 5, 97]),
  (887, 5, [2, 443]), (797, 2, [2, 199]), (631, 3, [2, 3, 5, 7]), (461, 2, [2, 5, 23]),
  (443, 2, [2, 13, 17]), (419, 2, [2, 11, 19]), (293, 2, [2, 73]), (271, 6, [2, 3, 5]),
  (239, 7, [2, 7, 17]), (199, 3, [2, 3, 11]), (149, 2, [2, 37]), (131, 2, [2, 5, 13]),
  (113, 3, [2, 7]), (109, 6, [2, 3]), (103, 5, [2, 3, 17]), (101, 2, [2, 5]), (97, 5, [2, 3]),
  (83, 2, [2, 41]), (73, 5, [2, 3]), (67, 2, [2, 3, 11]), (59, 2, [2, 29]), (53, 2, [2, 13]),
  (41, 6, [2, 5]), (37, 2, [2, 3]), (31, 3, [2, 3, 5]), (29, 2, [2, 7]), (23, 5, [2, 11]),
  (19, 2, [2, 3]), (17, 3, [2]), (13, 2, [2, 3]), (11, 2, [2, 5]), (7, 3, [2, 3]), (5, 2, [2]),
  (3, 2, [2]), (2, 1, [])]

theorem prattTable_prime : ∀ r ∈ prattTable, r.1.Prime := Pratt.prime_of_check (by decide +kernel)

theorem p_prime : Nat.Prime p := prattTable_prime _ List.mem_cons_self

theorem n_prime : Nat.Prime n := prattTable_prime _ (List.mem_cons_of_mem _ List.mem_cons_self)

end BtcHd.Real.Secp
