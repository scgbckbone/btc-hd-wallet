/-
The two `for` loops of `Prims/Secp256k1.lean` (`powMod`, `Jac.mul`) as iterates (`Nat.repeat`) of their
bodies, and the arithmetic meaning of `powMod`.  Core Lean only.
-/
import BtcHd.Prims.Secp256k1

namespace BtcHd.Real.Secp

/-- `Nat.repeat` applies `f` last; the loops below are unrolled from their first round -/
theorem repeat_succ' {σ : Type} (f : σ → σ) (n : Nat) (s : σ) :
    Nat.repeat f (n + 1) s = Nat.repeat f n (f s) := by
  induction n with
  | zero => rfl
  | succ n ih => exact congrArg f ih

theorem forIn_range_eq_repeat {σ : Type} (f : σ → σ) {body : Nat → σ → Id (ForInStep σ)}
    (hb : ∀ i s, body i s = pure (.yield (f s))) (n : Nat) (s : σ) :
    (forIn [0:n] s body).run = Nat.repeat f n s := by
  rw [Std.Legacy.Range.forIn_eq_forIn_range', Std.Legacy.Range.size]
  simp only [Nat.sub_zero, Nat.add_sub_cancel, Nat.div_one]
  generalize 0 = i
  induction n generalizing i s with
  | zero => rfl
  | succ n ih => rw [List.range'_succ, List.forIn_cons, hb, repeat_succ']; exact ih _ _

/-- the body of `powMod` on `(r, base, ex)`: one round of right-to-left square-and-multiply -/
def pmStep (m : Nat) : Nat × Nat × Nat → Nat × Nat × Nat
  | (r, b, e) => (if e % 2 = 1 then r * b % m else r, b * b % m, e / 2)

theorem powMod_eq_repeat (b e m : Nat) :
    powMod b e m = (Nat.repeat (pmStep m) 256 (1, b % m, e)).1 :=
  congrArg Prod.fst (forIn_range_eq_repeat (pmStep m) (fun _ ⟨r, b, e⟩ => by
    dsimp only [pmStep]; split <;> rfl) 256 _)

theorem pmStep_repeat {m r : Nat} (hr : r < m) (k b e : Nat) :
    (Nat.repeat (pmStep m) k (r, b, e)).1 = r * b ^ (e % 2 ^ k) % m := by
  induction k generalizing r b e with
  | zero => rw [Nat.pow_zero, Nat.mod_one, Nat.pow_zero, Nat.mul_one, Nat.mod_eq_of_lt hr]; rfl
  | succ k ih =>
    have hlt : (if e % 2 = 1 then r * b % m else r) < m := by
      split
      · exact Nat.mod_lt _ (Nat.zero_lt_of_lt hr)
      · exact hr
    -- `e % (2 * 2 ^ k) = e % 2 + 2 * (e / 2 % 2 ^ k)`: the low bit goes into `r`, the rest meets the squared base
    rw [repeat_succ', pmStep, ih hlt, Nat.pow_succ', Nat.mod_mul, Nat.pow_add, Nat.pow_mul,
      Nat.pow_two, Nat.mul_mod, ← Nat.pow_mod, ← Nat.mul_mod]
    split <;> rename_i h
    · rw [h, Nat.pow_one, ← Nat.mul_assoc, Nat.mul_mod, Nat.mod_mod, ← Nat.mul_mod]
    · rw [Nat.mod_two_ne_one.mp h, Nat.pow_zero, Nat.one_mul]

theorem powMod_eq_mod (b e : Nat) {m : Nat} (hm : 1 < m) : powMod b e m = b ^ (e % 2 ^ 256) % m := by
  rw [powMod_eq_repeat, pmStep_repeat hm, Nat.one_mul, ← Nat.pow_mod]

theorem powMod_eq (b e m : Nat) (he : e < 2 ^ 256) (hm : 1 < m) : powMod b e m = b ^ e % m := by
  rw [powMod_eq_mod b e hm, Nat.mod_eq_of_lt he]

theorem powMod_lt (b e m : Nat) (hm : 1 < m) : powMod b e m < m := by
  rw [powMod_eq_mod b e hm]; exact Nat.mod_lt _ (Nat.zero_lt_of_lt hm)

/-- the body of `Jac.mul` on `(acc, i)` -/
def mulStep (k : Nat) (pt : Jac) : Jac × Nat → Jac × Nat
  | (acc, i) => (if (k >>> (i - 1)) % 2 = 1 then acc.double.add pt else acc.double, i - 1)

theorem Jac.mul_eq_repeat (k : Nat) (pt : Jac) :
    Jac.mul k pt = (Nat.repeat (mulStep k pt) 256 (Jac.inf, 256)).1 :=
  congrArg Prod.fst (forIn_range_eq_repeat (mulStep k pt) (fun _ ⟨acc, i⟩ => by
    dsimp only [mulStep]; split <;> rfl) 256 _)

end BtcHd.Real.Secp
