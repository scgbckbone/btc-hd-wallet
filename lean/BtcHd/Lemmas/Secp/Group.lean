/-
secp256k1 as a Mathlib Weierstrass curve over `F = ZMod p`, and the correctness of the model's
Jacobian arithmetic (`Jac.double`, `Jac.add`, `Jac.toAffine`, `Jac.mul`, `add`, `mulGen`) with respect
to Mathlib's group law on `W.Point`.
-/
import BtcHd.Lemmas.Secp.Field
import Mathlib.AlgebraicGeometry.EllipticCurve.Affine.Point

namespace BtcHd.Real.Secp
open WeierstrassCurve

/-- the curve `y² = x³ + 7` over `F` -/
def W : Affine F := ⟨0, 0, 0, 0, 7⟩

@[simp] theorem W_a₁ : W.a₁ = 0 := rfl
@[simp] theorem W_a₂ : W.a₂ = 0 := rfl
@[simp] theorem W_a₃ : W.a₃ = 0 := rfl
@[simp] theorem W_a₄ : W.a₄ = 0 := rfl
@[simp] theorem W_a₆ : W.a₆ = 7 := rfl

instance : W.IsElliptic := ⟨by
  -- `Δ = -16 (4a³ + 27b²) = -16 · 27 · 7²`
  have : W.Δ = -((21168 : Nat) : F) := by
    simp only [WeierstrassCurve.Δ, WeierstrassCurve.b₄, WeierstrassCurve.b₆, WeierstrassCurve.b₈,
      W_a₁, W_a₂, W_a₃, W_a₄, W_a₆]
    ring
  rw [this, isUnit_iff_ne_zero, neg_ne_zero]
  exact cast_ne_zero (by decide) (by decide +kernel)⟩

/-- the group of points of secp256k1 (Mathlib's `AddCommGroup`) -/
abbrev E : Type := W.Point

/-- `W` is elliptic, so every point of the curve is nonsingular: no side condition besides the equation -/
theorem nonsingular_iff (x y : F) : W.Nonsingular x y ↔ y ^ 2 = x ^ 3 + 7 := by
  rw [← Affine.equation_iff_nonsingular, Affine.equation_iff]; simp

open WeierstrassCurve.Affine

/-- Mathlib's `Point.add_some` with the slope as a variable `l`, so that a caller may give it in any form (here:
a quotient of Jacobian coordinates) -/
theorem add_some_of_slope {x1 y1 x2 y2 l x3 y3 : F} (h1 : W.Nonsingular x1 y1) (h2 : W.Nonsingular x2 y2)
    (hxy : ¬(x1 = x2 ∧ y1 = -y2)) (hl : W.slope x1 x2 y1 y2 = l) (hx3 : x3 = l ^ 2 - x1 - x2)
    (hy3 : y3 = l * (x1 - x3) - y1) :
    ∃ h3, Point.some x1 y1 h1 + Point.some x2 y2 h2 = Point.some x3 y3 h3 := by
  have hX : W.addX x1 x2 (W.slope x1 x2 y1 y2) = x3 := by rw [hl, hx3]; simp [addX]
  have hY : W.addY x1 x2 y1 (W.slope x1 x2 y1 y2) = y3 := by
    rw [addY, negAddY, hX, hl, hy3]; simp [negY]; ring
  rw [Point.add_some (by simpa using hxy)]
  subst hX hY
  exact ⟨_, rfl⟩

/-- `(X, Y, Z)` are Jacobian coordinates of `P = (X / Z², Y / Z³)` -/
def JRep (X Y Z : F) (P : E) : Prop := Z ≠ 0 ∧ ∃ h, P = Point.some (X / Z ^ 2) (Y / Z ^ 3) h

section jacobian
variable {X1 Y1 Z1 X2 Y2 Z2 : F} {P Q : E}

theorem div_pow_eq_iff (hZ1 : Z1 ≠ 0) (hZ2 : Z2 ≠ 0) (A B : F) (n : Nat) :
    A / Z1 ^ n = B / Z2 ^ n ↔ B * Z1 ^ n - A * Z2 ^ n = 0 := by
  rw [div_eq_div_iff (pow_ne_zero _ hZ1) (pow_ne_zero _ hZ2), sub_eq_zero, eq_comm]

/-- addition (`H = U2 - U1`, `R = S2 - S1`) of points with distinct abscissae -/
theorem JRep.add (h1 : JRep X1 Y1 Z1 P) (h2 : JRep X2 Y2 Z2 Q) {H R X3 Y3 Z3 : F}
    (hH : H = X2 * Z1 ^ 2 - X1 * Z2 ^ 2) (hH0 : H ≠ 0) (hR : R = Y2 * Z1 ^ 3 - Y1 * Z2 ^ 3)
    (hX3 : X3 = R ^ 2 - H ^ 3 - 2 * (X1 * Z2 ^ 2 * H ^ 2))
    (hY3 : Y3 = R * (X1 * Z2 ^ 2 * H ^ 2 - X3) - Y1 * Z2 ^ 3 * H ^ 3) (hZ3 : Z3 = H * Z1 * Z2) :
    JRep X3 Y3 Z3 (P + Q) := by
  obtain ⟨hZ1, h1, rfl⟩ := h1
  obtain ⟨hZ2, h2, rfl⟩ := h2
  have hx : X1 / Z1 ^ 2 ≠ X2 / Z2 ^ 2 := fun h => hH0 (hH ▸ (div_pow_eq_iff hZ1 hZ2 ..).mp h)
  refine ⟨hZ3 ▸ mul_ne_zero (mul_ne_zero hH0 hZ1) hZ2,
    add_some_of_slope h1 h2 (fun h => hx h.1) (l := R / Z3) ?_ ?_ ?_⟩
  · rw [slope_of_X_ne hx, div_eq_iff (sub_ne_zero.mpr hx), hZ3]; field_simp; rw [hH, hR]; ring
  · rw [hZ3, hX3]; field_simp; rw [hH]; ring
  · rw [hZ3, hY3]; field_simp

/-- equal abscissae (`H = 0`): the points are equal or opposite -/
theorem JRep.add_of_X_eq (h1 : JRep X1 Y1 Z1 P) (h2 : JRep X2 Y2 Z2 Q)
    (hH : X2 * Z1 ^ 2 - X1 * Z2 ^ 2 = 0) :
    (Y2 * Z1 ^ 3 - Y1 * Z2 ^ 3 = 0 → P = Q) ∧ (Y2 * Z1 ^ 3 - Y1 * Z2 ^ 3 ≠ 0 → P + Q = 0) := by
  obtain ⟨hZ1, h1, rfl⟩ := h1
  obtain ⟨hZ2, h2, rfl⟩ := h2
  have hx := (div_pow_eq_iff hZ1 hZ2 ..).mpr hH
  refine ⟨fun hR => ?_, fun hR => ?_⟩
  · have hy := (div_pow_eq_iff hZ1 hZ2 ..).mpr hR
    congr 1
  · exact Point.add_of_Y_eq hx
      ((Y_eq_of_X_eq h1.1 h2.1 hx).resolve_left (mt (div_pow_eq_iff hZ1 hZ2 ..).mp hR))

/-- doubling for `a = 0` (`M = 3X²`, `S = 4XY²`) of a point that is not of order two -/
theorem JRep.double (h1 : JRep X1 Y1 Z1 P) (hY1 : Y1 ≠ 0) {X3 Y3 Z3 : F}
    (hX3 : X3 = (3 * X1 ^ 2) ^ 2 - 2 * (4 * X1 * Y1 ^ 2))
    (hY3 : Y3 = 3 * X1 ^ 2 * (4 * X1 * Y1 ^ 2 - X3) - 8 * Y1 ^ 4) (hZ3 : Z3 = 2 * Y1 * Z1) :
    JRep X3 Y3 Z3 (P + P) := by
  obtain ⟨hZ1, h1, rfl⟩ := h1
  have hy2 : 2 * (Y1 / Z1 ^ 3) ≠ 0 := mul_ne_zero two_ne_zero_F (div_ne_zero hY1 (pow_ne_zero 3 hZ1))
  have hy : Y1 / Z1 ^ 3 ≠ -(Y1 / Z1 ^ 3) := fun h => hy2 (by linear_combination h)
  have hZ3' : Z3 ≠ 0 := hZ3 ▸ mul_ne_zero (mul_ne_zero two_ne_zero_F hY1) hZ1
  refine ⟨hZ3', add_some_of_slope h1 h1 (fun h => hy h.2) (l := 3 * X1 ^ 2 / Z3) ?_ ?_ ?_⟩
  · rw [slope_of_Y_ne rfl (by simpa using hy)]
    simp only [negY, W_a₁, W_a₂, W_a₃, W_a₄, zero_mul, sub_zero, sub_neg_eq_add]
    rw [div_eq_iff (by rwa [← two_mul])]; field_simp; rw [hZ3]; ring
  · field_simp; rw [hZ3, hX3]; ring
  · field_simp; rw [hZ3, hY3]; ring

theorem JRep.double_of_Y_eq_zero (h1 : JRep X1 Y1 Z1 P) (hY1 : Y1 = 0) : P + P = 0 := by
  obtain ⟨_, h1, rfl⟩ := h1
  exact Point.add_of_Y_eq rfl (by simp [hY1])

end jacobian

/-- the Jacobian triple `j` (with reduced `z`) represents the affine point `P` -/
def Rep (j : Jac) (P : E) : Prop :=
  j.z < p ∧ ((j.z = 0 ∧ P = 0) ∨
    (j.z ≠ 0 ∧ ∃ h, P = Point.some ((j.x : F) / (j.z : F) ^ 2) ((j.y : F) / (j.z : F) ^ 3) h))

theorem rep_of_z_eq_zero {j : Jac} (hz : j.z = 0) : Rep j 0 := ⟨hz ▸ p_pos, Or.inl ⟨hz, rfl⟩⟩

theorem JRep.rep {j : Jac} {P : E} (h : JRep j.x j.y j.z P) (hlt : j.z < p) : Rep j P :=
  ⟨hlt, Or.inr ⟨fun h0 => h.1 (by rw [h0, Nat.cast_zero]), h.2⟩⟩

theorem Rep.zero {j : Jac} {P : E} (h : Rep j P) (hz : j.z = 0) : P = 0 :=
  h.2.elim (·.2) (absurd hz ·.1)

theorem Rep.some {j : Jac} {P : E} (h : Rep j P) (hz : j.z ≠ 0) : JRep j.x j.y j.z P :=
  ⟨cast_ne_zero hz h.1, h.2.elim (absurd ·.1 hz) (·.2)⟩

theorem rep_double {j : Jac} {P : E} (h : Rep j P) : Rep j.double (P + P) := by
  unfold Jac.double
  by_cases hz : j.z = 0
  · rw [if_pos (by simp [hz]), h.zero hz, add_zero]; exact rep_of_z_eq_zero rfl
  have hj := h.some hz
  by_cases hY : (j.y : F) = 0
  · rw [hj.double_of_Y_eq_zero hY]
    refine rep_of_z_eq_zero ?_
    -- the model tests `j.y = 0` on the unreduced value; where that misses a multiple of `p`, the formula gives `z = 0`
    split
    · rfl
    · exact (cast_eq_zero (Nat.mod_lt _ p_pos)).mp (by push_cast; rw [hY]; ring)
  · rw [if_neg (by simpa [hz] using fun h0 => hY (by rw [h0, Nat.cast_zero]))]
    exact (hj.double hY (by push_cast; ring) (by push_cast; ring) (by push_cast; ring)).rep
      (Nat.mod_lt _ p_pos)

theorem rep_add {a b : Jac} {P Q : E} (ha : Rep a P) (hb : Rep b Q) : Rep (a.add b) (P + Q) := by
  unfold Jac.add
  by_cases haz : a.z = 0
  · rw [if_pos haz, ha.zero haz, zero_add]; exact hb
  by_cases hbz : b.z = 0
  · rw [if_neg haz, if_pos hbz, hb.zero hbz, add_zero]; exact ha
  rw [if_neg haz, if_neg hbz]
  have h1 := ha.some haz
  have h2 := hb.some hbz
  extract_lets z1z1 z2z2 u1 u2 s1 s2 h r hh hhh u1hh nx ny nz
  -- the model's intermediate values read in `F`; its two comparisons are `H = 0` and `R = 0`
  have hu1 : (u1 : F) = a.x * b.z ^ 2 := by simp only [u1, z2z2]; push_cast; ring
  have hu2 : (u2 : F) = b.x * a.z ^ 2 := by simp only [u2, z1z1]; push_cast; ring
  have hs1 : (s1 : F) = a.y * b.z ^ 3 := by simp only [s1, z2z2]; push_cast; ring
  have hs2 : (s2 : F) = b.y * a.z ^ 3 := by simp only [s2, z1z1]; push_cast; ring
  have hH : (h : F) = b.x * a.z ^ 2 - a.x * b.z ^ 2 := by rw [← hu1, ← hu2]; exact cast_sub u2 u1
  have hR : (r : F) = b.y * a.z ^ 3 - a.y * b.z ^ 3 := by rw [← hs1, ← hs2]; exact cast_sub s2 s1
  have hU : (h : F) = 0 ↔ u1 = u2 := cast_sub_eq_zero (Nat.mod_lt _ p_pos) (Nat.mod_lt _ p_pos)
  have hS : (r : F) = 0 ↔ s1 = s2 := cast_sub_eq_zero (Nat.mod_lt _ p_pos) (Nat.mod_lt _ p_pos)
  split
  · next e =>
    obtain ⟨heq, hopp⟩ := h1.add_of_X_eq h2 (hH ▸ hU.mpr e)
    split
    · next e => rw [← heq (hR ▸ hS.mpr e)]; exact rep_double ha
    · next e => rw [hopp (hR ▸ mt hS.mp e)]; exact rep_of_z_eq_zero rfl
  · next e =>
    refine (h1.add h2 hH (mt hU.mp e) hR ?_ ?_ ?_).rep (Nat.mod_lt _ p_pos)
    · simp only [nx, hhh, hh, u1hh]; push_cast; rw [hu1]; ring
    · simp only [ny, hhh, hh, u1hh]; push_cast; rw [hu1, hs1]; ring
    · simp only [nz]; push_cast; ring

theorem onCurve_nonsingular {x y : Nat} (h : onCurve x y = true) : W.Nonsingular (x : F) (y : F) :=
  (nonsingular_iff _ _).mpr ((onCurve_iff x y).mp h).2.2

open Classical in
/-- total embedding of model points into Mathlib's point group (junk value `0` off the curve) -/
noncomputable def toPointD : Pt → E
  | none => 0
  | some (x, y) => if h : W.Nonsingular (x : F) (y : F) then Point.some _ _ h else 0

@[simp] theorem toPointD_none : toPointD none = 0 := rfl

theorem toPointD_some {x y : Nat} (h : W.Nonsingular (x : F) (y : F)) :
    toPointD (some (x, y)) = Point.some _ _ h := dif_pos h

theorem toPointD_of_cast {x y : Nat} {X Y : F} (hx : x < p) (hy : y < p) (hX : (x : F) = X)
    (hY : (y : F) = Y) (h : W.Nonsingular X Y) :
    Valid (some (x, y)) ∧ toPointD (some (x, y)) = Point.some X Y h := by
  subst hX hY
  exact ⟨(onCurve_iff x y).mpr ⟨hx, hy, (nonsingular_iff _ _).mp h⟩, toPointD_some h⟩

theorem toPointD_eq_zero_iff {q : Pt} (hq : Valid q) : toPointD q = 0 ↔ q = none := by
  match q, hq with
  | none, _ => simp
  | some (x, y), hq => simp [toPointD_some (onCurve_nonsingular hq)]

theorem toPointD_inj {a b : Pt} (ha : Valid a) (hb : Valid b) (h : toPointD a = toPointD b) : a = b := by
  match a, ha, b, hb with
  | none, _, b, hb => exact ((toPointD_eq_zero_iff hb).mp h.symm).symm
  | a, ha, none, _ => exact (toPointD_eq_zero_iff ha).mp h
  | some (x1, y1), ha, some (x2, y2), hb =>
    rw [toPointD_some (onCurve_nonsingular ha), toPointD_some (onCurve_nonsingular hb)] at h
    obtain ⟨hx1, hy1, _⟩ := (onCurve_iff _ _).mp ha
    obtain ⟨hx2, hy2, _⟩ := (onCurve_iff _ _).mp hb
    injection h with hx hy
    rw [(cast_inj hx1 hx2).mp hx, (cast_inj hy1 hy2).mp hy]

theorem rep_ofAffine {q : Pt} (hq : Valid q) : Rep (Jac.ofAffine q) (toPointD q) := by
  match q, hq with
  | none, _ => exact rep_of_z_eq_zero rfl
  | some (x, y), hq =>
    exact JRep.rep (by simpa [JRep, Jac.ofAffine] using ⟨onCurve_nonsingular hq, toPointD_some _⟩) one_lt_p

theorem rep_toAffine {j : Jac} {P : E} (h : Rep j P) : Valid j.toAffine ∧ toPointD j.toAffine = P := by
  unfold Jac.toAffine
  by_cases hz : j.z = 0
  · rw [if_pos hz, h.zero hz]; exact ⟨trivial, rfl⟩
  obtain ⟨hZ, hns, rfl⟩ := h.some hz
  rw [if_neg hz]
  exact toPointD_of_cast (Nat.mod_lt _ p_pos) (Nat.mod_lt _ p_pos) (by push_cast; field_simp)
    (by push_cast; field_simp) hns

theorem add_spec {a b : Pt} (ha : Valid a) (hb : Valid b) :
    Valid (add a b) ∧ toPointD (add a b) = toPointD a + toPointD b :=
  rep_toAffine (rep_add (rep_ofAffine ha) (rep_ofAffine hb))

/-- `i` more rounds with the counter at `i` read the low `i` bits of `k` from the top: the accumulator is doubled `i`
times and `(k % 2 ^ i) • Q` is added -/
theorem mulStep_repeat_rep (k : Nat) {pt : Jac} {Q : E} (hQ : Rep pt Q) (i : Nat) {acc : Jac} {P : E}
    (hP : Rep acc P) : Rep (Nat.repeat (mulStep k pt) i (acc, i)).1 (2 ^ i • P + (k % 2 ^ i) • Q) := by
  induction i generalizing acc P with
  | zero => simpa [Nat.mod_one, Nat.repeat] using hP
  | succ i ih =>
    have hstep : Rep (if k >>> i % 2 = 1 then acc.double.add pt else acc.double)
        (P + P + (k / 2 ^ i % 2) • Q) := by
      rw [Nat.shiftRight_eq_div_pow]
      split
      · next h => rw [h, one_nsmul]; exact rep_add (rep_double hP) hQ
      · next h => rw [Nat.mod_two_ne_one.mp h, zero_nsmul, add_zero]; exact rep_double hP
    rw [show 2 ^ (i + 1) • P + (k % 2 ^ (i + 1)) • Q =
      2 ^ i • (P + P + (k / 2 ^ i % 2) • Q) + (k % 2 ^ i) • Q by rw [Nat.mod_pow_succ]; module,
      repeat_succ']
    exact ih hstep

theorem mul_rep {k : Nat} (hk : k < 2 ^ 256) {pt : Jac} {Q : E} (hQ : Rep pt Q) :
    Rep (Jac.mul k pt) (k • Q) := by
  have := mulStep_repeat_rep k hQ 256 (rep_of_z_eq_zero (j := Jac.inf) rfl)
  rwa [nsmul_zero, zero_add, Nat.mod_eq_of_lt hk, ← Jac.mul_eq_repeat] at this

def Gpt : Pt := some (gx, gy)

theorem G_valid : Valid Gpt := by
  show onCurve gx gy = true
  decide +kernel

noncomputable def G : E := toPointD Gpt

theorem G_ne_zero : G ≠ 0 := fun h => nomatch (toPointD_eq_zero_iff G_valid).mp h

/-- `n·G = ∞`, by running the model's own double-and-add loop in the kernel -/
theorem n_smul_G : n • G = 0 :=
  (mul_rep n_lt (rep_ofAffine G_valid)).zero (by decide +kernel)

theorem addOrderOf_G : addOrderOf G = n :=
  haveI : Fact n.Prime := ⟨n_prime⟩
  addOrderOf_eq_prime n_smul_G G_ne_zero

theorem mod_n_smul_G (k : Nat) : (k % n) • G = k • G := by
  rw [← addOrderOf_G, mod_addOrderOf_nsmul]

theorem mulGen_spec (k : Nat) : Valid (mulGen k) ∧ toPointD (mulGen k) = k • G := by
  have hk : k % n < 2 ^ 256 := (Nat.mod_lt _ n_prime.pos).trans n_lt
  have := rep_toAffine (mul_rep hk (rep_ofAffine G_valid))
  rwa [show toPointD Gpt = G from rfl, mod_n_smul_G] at this

end BtcHd.Real.Secp
