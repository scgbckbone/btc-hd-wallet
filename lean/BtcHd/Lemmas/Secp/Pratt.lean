/-
Pratt (Lucas) primality certificates checked by kernel evaluation of the model's own
square-and-multiply round (`pmStep`, whose iterates compute `b ^ e % m` by `Loops.lean`).
-/
import BtcHd.Lemmas.Secp.Loops
import Mathlib.NumberTheory.LucasPrimality

namespace BtcHd.Real.Secp.Pratt
open BtcHd.Real.Secp

/-- `a ^ e % p`, in as many rounds as `e` has bits -/
def powm (p a e : Nat) : Nat := (Nat.repeat (pmStep p) (e.log2 + 1) (1, a % p, e)).1

theorem powm_eq {p : Nat} (a e : Nat) (hp : 1 < p) : powm p a e = a ^ e % p := by
  rw [powm, pmStep_repeat hp, Nat.mod_eq_of_lt Nat.lt_log2_self, Nat.one_mul, ← Nat.pow_mod]

/-- A certificate row `(p, a, qs)`: `a` has order `p - 1` modulo `p`.  That `qs` holds every prime factor of
`p - 1` is checked as `p - 1 ∣ qs.prod ^ log2 p` (no prime occurs in `p - 1` more than `log2 p` times). -/
def checkRow (p a : Nat) (qs : List Nat) : Bool :=
  decide (1 < p) && qs.prod ^ p.log2 % (p - 1) == 0 && powm p a (p - 1) == 1 &&
    qs.all fun q => powm p a ((p - 1) / q) != 1

theorem prime_of_checkRow {p a : Nat} {qs : List Nat} (hqs : ∀ q ∈ qs, q.Prime)
    (h : checkRow p a qs = true) : p.Prime := by
  simp only [checkRow, Bool.and_eq_true, decide_eq_true_eq, beq_iff_eq, List.all_eq_true,
    bne_iff_ne] at h
  obtain ⟨⟨⟨hp, hdvd⟩, h1⟩, hall⟩ := h
  have hpow (e : Nat) : (a : ZMod p) ^ e = 1 ↔ powm p a e = 1 := by
    rw [powm_eq a e hp, ← Nat.cast_pow, ← Nat.cast_one, ZMod.natCast_eq_natCast_iff', Nat.mod_eq_of_lt hp]
  refine lucas_primality p a ((hpow _).mpr h1) fun r hr hd => ?_
  obtain ⟨q, hq, hrq⟩ := (Prime.dvd_prod_iff hr.prime).mp
    (hr.prime.dvd_of_dvd_pow (hd.trans (Nat.dvd_of_mod_eq_zero hdvd)))
  rw [(Nat.prime_dvd_prime_iff_eq hr (hqs q hq)).mp hrq, Ne, hpow]
  exact hall q hq

/-- A certificate: every row checks, and the factors it lists head later rows. -/
def check : List (Nat × Nat × List Nat) → Bool
  | [] => true
  | (p, a, qs) :: rows => checkRow p a qs && qs.all (fun q => rows.any (·.1 == q)) && check rows

theorem prime_of_check {rows : List (Nat × Nat × List Nat)} (h : check rows = true) :
    ∀ r ∈ rows, r.1.Prime := by
  induction rows with
  | nil => simp
  | cons r rows ih =>
    simp only [check, Bool.and_eq_true, List.all_eq_true, List.any_eq_true, beq_iff_eq] at h
    obtain ⟨⟨hrow, hqs⟩, hrows⟩ := h
    refine List.forall_mem_cons.mpr ⟨prime_of_checkRow (fun q hq => ?_) hrow, ih hrows⟩
    obtain ⟨r, hr, rfl⟩ := hqs q hq
    exact ih hrows r hr

end BtcHd.Real.Secp.Pratt
