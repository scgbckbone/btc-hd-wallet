/-
Helper lemmas for C04, word-list part.  Shape, order and number form of the frozen official list
(`Official.words`, `Official.wordNums`) are checked by one kernel evaluation on the UTF-8 bytes of
the words, as lists of numbers, and then carried over to `String.toList` and `wordChars`.  Word
lookup.
-/
import BtcHd.Model.Bip39
import BtcHd.Official.Wordlist
import BtcHd.Lemmas.Bip39Text

namespace BtcHd.Bip39
open BtcHd

theorem wordChars_zero : wordChars 0 = [] := by
  rw [wordChars]; simp

theorem wordChars_pos {w : Nat} (h : w ≠ 0) :
    wordChars w = wordChars (w / 256) ++ [Char.ofNat (w % 256)] := by
  rw [wordChars]; simp [h]

/-- the number with base-256 digits `ds`, most significant first: how `Generated.wordNums` stores
a word with these letters (a fold the kernel can run, where `wordChars` recurses on `w / 256`,
which it cannot unfold) -/
def ofDigits (ds : List Nat) : Nat := ds.foldl (fun n d => n * 256 + d) 0

theorem wordChars_foldl {ds : List Nat} (h : ∀ d ∈ ds, 0 < d ∧ d < 256) (n : Nat) :
    wordChars (ds.foldl (fun n d => n * 256 + d) n) = wordChars n ++ ds.map Char.ofNat := by
  induction ds generalizing n with
  | nil => exact (List.append_nil _).symm
  | cons d ds ih =>
    obtain ⟨h0, h256⟩ := h d List.mem_cons_self
    rw [List.foldl_cons, ih fun e he => h e (List.mem_cons_of_mem _ he), wordChars_pos (by omega),
      show (n * 256 + d) / 256 = n by omega, show (n * 256 + d) % 256 = d by omega,
      List.append_assoc]
    rfl

theorem wordChars_ofDigits {ds : List Nat} (h : ∀ d ∈ ds, 0 < d ∧ d < 256) :
    wordChars (ofDigits ds) = ds.map Char.ofNat := by
  rw [ofDigits, wordChars_foldl h, wordChars_zero, List.nil_append]

/-- every element is smaller than its successor, starting above `prev` -/
def chainFrom {α : Type} [LT α] [DecidableLT α] (prev : α) : List α → Bool
  | [] => true
  | x :: xs => decide (prev < x) && chainFrom x xs

theorem chainFrom_pairwise {α : Type} [LT α] [DecidableLT α]
    (trans : ∀ {a b c : α}, a < b → b < c → a < c) (prev : α) (l : List α)
    (h : chainFrom prev l = true) : (∀ x ∈ l, prev < x) ∧ l.Pairwise (· < ·) := by
  induction l generalizing prev with
  | nil => simp
  | cons x xs ih =>
    simp only [chainFrom, Bool.and_eq_true, decide_eq_true_eq] at h
    obtain ⟨h1, h2⟩ := ih x h.2
    refine ⟨?_, List.pairwise_cons.mpr ⟨h1, h2⟩⟩
    intro y hy
    rcases List.mem_cons.mp hy with rfl | hy
    · exact h.1
    · exact trans h.1 (h1 y hy)

theorem official_length : Official.wordNums.length = 2048 := by
  -- the sum of the blocks' lengths, without building the 16-fold `++`
  simp only [Official.wordNums, List.length_append]
  decide +kernel

/-- the two files hold the same literals (if the list in the repository ever differs, this no
longer elaborates) -/
theorem generated_eq_official : Generated.wordNums = Official.wordNums := rfl

/-- 3 to 8 code points, all of them those of `a`..`z` (`Nat.ble`, which the kernel evaluates
directly, instead of `decide (· ≤ ·)`) -/
def isWord (ds : List Nat) : Bool :=
  Nat.ble 3 ds.length && Nat.ble ds.length 8 && ds.all fun d => Nat.ble 97 d && Nat.ble d 122

/-- shape and order of the words and their number form, in one evaluation so that the bytes of
each word are computed once.  Both lists are left-nested chains of `++`, through which the kernel
would drag the first blocks fifteen times: re-associated, every element passes one `++`. -/
theorem official_check :
    (Official.words.map utf8Nats).all isWord = true ∧
    chainFrom [] (Official.words.map utf8Nats) = true ∧
    ((Official.words.map utf8Nats).map ofDigits == Official.wordNums) = true := by
  simp only [Official.words, Official.wordNums, List.append_assoc]
  decide +kernel

theorem official_shape {s : String} (h : s ∈ Official.words) :
    3 ≤ (utf8Nats s).length ∧ (utf8Nats s).length ≤ 8 ∧ ∀ d ∈ utf8Nats s, 97 ≤ d ∧ d ≤ 122 := by
  simpa [isWord, and_assoc] using
    List.all_eq_true.mp official_check.1 _ (List.mem_map_of_mem h)

theorem official_nums : Official.wordNums = Official.words.map fun s => ofDigits (utf8Nats s) := by
  rw [← eq_of_beq official_check.2.2, List.map_map]
  rfl

/-- a word of the text form consists of the characters whose codes are its UTF-8 bytes, and so
does the word of the number with these bytes as digits -/
theorem official_word {s : String} (h : s ∈ Official.words) :
    s.toList = (utf8Nats s).map Char.ofNat ∧
      wordChars (ofDigits (utf8Nats s)) = (utf8Nats s).map Char.ofNat :=
  have hd := (official_shape h).2.2
  ⟨toList_of_utf8Nats fun d hd' => by have := hd d hd'; omega,
    wordChars_ofDigits fun d hd' => by have := hd d hd'; omega⟩

theorem official_sorted : (Official.wordNums.map wordChars).Pairwise (· < ·) := by
  have h := (chainFrom_pairwise List.lt_trans _ _ official_check.2.1).2
  have lt : ∀ {s}, s ∈ Official.words → ∀ d ∈ utf8Nats s, d < 0xd800 := fun hs d hd => by
    have := ((official_shape hs).2.2 d hd).2; omega
  rw [official_nums, List.map_map]
  rw [List.pairwise_map] at h ⊢
  refine h.imp_of_mem fun {a b} ha hb hab => ?_
  rw [Function.comp_apply, Function.comp_apply, (official_word ha).2, (official_word hb).2]
  exact map_ofNat_lt (lt ha) (lt hb) hab

theorem wordAt_eq (i : Nat) : wordAt i = Official.wordNums[i]? := by
  rw [wordAt, generated_eq_official]

theorem wordAt_of_lt {i : Nat} (h : i < 2048) : wordAt i = some Official.wordNums[i]! := by
  have h' : i < Official.wordNums.length := official_length ▸ h
  rw [wordAt_eq, List.getElem?_eq_getElem h', getElem!_pos _ i h']

theorem wordAt_none_of_ge {i : Nat} (h : 2048 ≤ i) : wordAt i = none := by
  rw [wordAt_eq]; exact List.getElem?_eq_none (by rw [official_length]; exact h)

theorem wordAt_mem {i w : Nat} (h : wordAt i = some w) : w ∈ Official.wordNums :=
  List.mem_of_getElem? (wordAt_eq i ▸ h)

theorem mapM_wordAt (idx : List Nat) (h : ∀ i ∈ idx, i < 2048) :
    idx.mapM wordAt = some (idx.map (fun i => Official.wordNums[i]!)) :=
  Basics.mapM_eq_some_map fun i hi => wordAt_of_lt (h i hi)

theorem mapM_wordAt_none (idx : List Nat) (h : ∃ i ∈ idx, 2048 ≤ i) : idx.mapM wordAt = none :=
  let ⟨i, hi, h⟩ := h
  Basics.mapM_eq_none_iff.mpr ⟨i, hi, wordAt_none_of_ge h⟩

end BtcHd.Bip39
