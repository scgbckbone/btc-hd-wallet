/-
A toy wallet over the toy curve (`Lemmas/ToyCurve.lean`) on which the whole report is produced:
non-vacuity witness for the hypotheses `generate … = some j`, `wasabi … = some j` of
C06 / C15 / C16.  Nothing about secp256k1 or HMAC-SHA512 is claimed here.
-/
import BtcHd.Lemmas.ToyCurve
import BtcHd.Model.Wallet

namespace BtcHd.Toy
open BtcHd Bip32 Wallet

/-- an "HMAC" whose left half is a small scalar chosen so that no derivation step on the toy
curve (order 5) hits an invalid key; the argument byte read is the parent scalar (the last byte of `0x00 ‖ k`:
all parents are private here) -/
def hmacW (_key data : Bytes) : Bytes :=
  let k := (data.getD 32 0).toNat
  beFixed 32 (if k % 5 = 4 then 2 else 1) ++ (List.replicate 31 0 ++ [if k % 5 = 3 then 1 else 2])

def primsW : Prims Nat := { prims with hmac512 := hmacW }

/-- the master node `master_key` builds from the empty seed under `primsW` -/
def masterW (t : Bool) : Node :=
  { isPrv := true, key := beFixed 32 1, chainCode := List.replicate 31 0 ++ [2], depth := 0,
    index := 0, testnet := t, hasParent := false, parentFp := none, path := [],
    parsedVersion := none }

def walletW (t : Bool) : Wallet := ⟨masterW t, t, none, none⟩

theorem masterKey_toy (t : Bool) : masterKey primsW [] t = some (masterW t) := by
  cases t <;> decide +kernel

theorem fromSeedBytes_toy (t : Bool) : fromSeedBytes primsW [] t = some (walletW t) := by
  unfold fromSeedBytes
  rw [masterKey_toy]
  rfl

theorem walletW_root (t : Bool) : (walletW t).master.path = [] := rfl

theorem hash256W_length (x : Bytes) : (primsW.hash256 x).length = 32 := by
  simp [Prims.hash256, primsW, prims]

/-- account 1, indexes 2 and 3 -/
theorem generate_toy : ∃ j, generate primsW (walletW true) 1 2 4 = some j :=
  Option.isSome_iff_exists.mp (by decide +kernel)

theorem wasabi_toy (t : Bool) : (wasabi primsW (walletW t)).isSome = true := by
  cases t <;> decide +kernel

/-- the hypotheses of `C16.export_import_tag` can be met: a printed public key (of the master)
and, next, a printed private key (of a derived node) that `from_extended_key` accepts -/
theorem export_import_toy :
    ((nodeExtendedPublicKey primsW (walletW true) (masterW true)).bind (fromExtendedKey primsW)).isSome
      = true := by decide +kernel

theorem export_import_prv_toy :
    (((derivePath primsW (masterW false) [49 + 2 ^ 31, 2 ^ 31]).bind
        (nodeExtendedPrivateKey primsW (walletW false))).bind (fromExtendedKey primsW)).isSome
      = true := by decide +kernel

end BtcHd.Toy
