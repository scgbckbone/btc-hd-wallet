/-
The Base58 loops of the model are positional notation, and both sides of the codec are strings of
digits in the sense of `Lemmas/Digits.lean`: a byte string is `leadingZeros` zero bytes followed by
`beMinimal` of its value, a string over the alphabet is `leadingOnes` characters `'1'` followed by
`encBody` of its value.  `encode` and `decode` carry the pair (run length, value) from one side to the
other.
-/
import BtcHd.Lemmas.Digits
import BtcHd.Lemmas.BeFixed
import BtcHd.Model.Base58

namespace BtcHd.Base58
open BtcHd Digits Basics BeFixed

/-! The alphabet is `Generated.base58Alphabet`, extracted from the source on every run: the next two
facts are checked anew whenever it changes. -/

theorem alphabet_length : alphabet.length = 58 := by decide

theorem alphabet_nodup : alphabet.Nodup := by
  -- the alphabet is listed in increasing code-point order: 57 comparisons in place of 1653
  have h : (alphabet.map Char.toNat).IsChain (· < ·) := by decide +kernel
  exact .of_map _ (h.pairwise.imp Nat.ne_of_lt)

theorem alphaAt_mem {i : Nat} (h : i < 58) : alphaAt i ∈ alphabet :=
  getD_mem (alphabet_length ▸ h) _

theorem idxOf_alphaAt {i : Nat} (h : i < 58) : alphabet.idxOf (alphaAt i) = i :=
  idxOf_getD alphabet_nodup (alphabet_length ▸ h) _

theorem idxOf_lt {c : Char} (h : c ∈ alphabet) : alphabet.idxOf c < 58 :=
  alphabet_length ▸ List.idxOf_lt_length_of_mem h

theorem alphaAt_idxOf {c : Char} (h : c ∈ alphabet) : alphaAt (alphabet.idxOf c) = c :=
  getD_idxOf h _

theorem encBody_eq (num : Nat) (acc : List Char) :
    encBody num acc = (digitsBE 58 num).map alphaAt ++ acc := by
  induction num using Nat.strong_induction_on generalizing acc with
  | _ num ih =>
    rw [encBody]
    split
    · next h => subst h; simp [digitsBE_zero]
    · next h =>
      have hpos : 0 < num := Nat.pos_of_ne_zero h
      rw [ih (num / 58) (Nat.div_lt_self hpos (by decide)), digitsBE_step (by decide) hpos]
      simp

theorem decNum_eq (s : List Char) (acc : Nat) :
    decNum s acc =
      if ∀ c ∈ s, c ∈ alphabet then some (horner 58 (s.map alphabet.idxOf) acc) else none := by
  induction s generalizing acc with
  | nil => rfl
  | cons c cs ih =>
    rw [decNum]
    by_cases hc : c ∈ alphabet
    · simp [hc, ih, horner_cons]
    · simp [hc]

theorem beToNat_eq (bs : Bytes) : beToNat bs = horner 256 (bs.map (·.toNat)) 0 := by
  unfold beToNat horner
  rw [List.foldl_map]

theorem beMinimal_eq (n : Nat) : beMinimal n = (digitsBE 256 n).map UInt8.ofNat := by
  induction n using Nat.strong_induction_on with
  | _ n ih =>
    rw [beMinimal]
    split
    · next h => subst h; simp [digitsBE_zero]
    · next h =>
      have hpos : 0 < n := Nat.pos_of_ne_zero h
      rw [ih (n / 256) (Nat.div_lt_self hpos (by decide)), digitsBE_step (by decide) hpos]
      simp

theorem leadingZeros_eq (bs : Bytes) : leadingZeros bs = lead 0 bs := by
  induction bs with
  | nil => rfl
  | cons b bs ih => rw [leadingZeros, lead, ih]

theorem leadingOnes_eq (s : List Char) : leadingOnes s = lead (alphaAt 0) s := by
  induction s with
  | nil => rfl
  | cons c cs ih => rw [leadingOnes, lead, ih]

theorem leadingZeros_normal (k n : Nat) :
    leadingZeros (List.replicate k 0 ++ beMinimal n) = k := by
  rw [leadingZeros_eq, beMinimal_eq]
  exact lead_normal (e := UInt8.ofNat) (by decide) (fun _ => UInt8.toNat_ofNat_of_lt') k n

theorem beToNat_normal (k n : Nat) : beToNat (List.replicate k 0 ++ beMinimal n) = n := by
  rw [beToNat_eq, beMinimal_eq]
  exact horner_normal (e := UInt8.ofNat) (by decide) (fun _ => UInt8.toNat_ofNat_of_lt') k n

theorem eq_normal_bytes (bs : Bytes) :
    bs = List.replicate (leadingZeros bs) 0 ++ beMinimal (beToNat bs) := by
  rw [leadingZeros_eq, beMinimal_eq, beToNat_eq]
  exact eq_normal (e := UInt8.ofNat) (by decide) (fun _ => UInt8.toNat_ofNat_of_lt') bs
    fun b _ => ⟨b.toNat_lt, UInt8.ofNat_toNat⟩

theorem beToNat_beMinimal (n : Nat) : beToNat (beMinimal n) = n :=
  beToNat_normal 0 n

theorem leadingOnes_normal (k n : Nat) :
    leadingOnes (List.replicate k (alphaAt 0) ++ encBody n []) = k := by
  rw [leadingOnes_eq, encBody_eq, List.append_nil]
  exact lead_normal (r := alphabet.idxOf) (by decide) (fun _ => idxOf_alphaAt) k n

theorem decNum_normal (k n : Nat) :
    decNum (List.replicate k (alphaAt 0) ++ encBody n []) 0 = some n := by
  rw [decNum_eq, encBody_eq, List.append_nil,
    horner_normal (r := alphabet.idxOf) (by decide) (fun _ => idxOf_alphaAt)]
  refine if_pos fun c hc => ?_
  rcases List.mem_append.mp hc with h | h
  · rw [List.eq_of_mem_replicate h]; exact alphaAt_mem (by decide)
  · obtain ⟨d, hd, rfl⟩ := List.mem_map.mp h
    exact alphaAt_mem (digitsBE_lt (by decide) hd)

theorem exists_normal {s : List Char} (h : ∀ c ∈ s, c ∈ alphabet) :
    ∃ k n, s = List.replicate k (alphaAt 0) ++ encBody n [] :=
  ⟨_, _, by
    rw [encBody_eq, List.append_nil]
    exact eq_normal (r := alphabet.idxOf) (by decide) (fun _ => idxOf_alphaAt) s
      fun c hc => ⟨idxOf_lt (h c hc), alphaAt_idxOf (h c hc)⟩⟩

/-- `decode` on a normal form.  The pad count runs over `s[:-1]`, which loses a `'1'` exactly when
no digits follow, and then `numBytes 0 = [0]` puts the zero byte back; only the empty string is
decoded to something it is not the encoding of. -/
theorem decode_normal {k n : Nat} (h : n = 0 → k ≠ 0) :
    decode (List.replicate k (alphaAt 0) ++ encBody n []) =
      some (List.replicate k 0 ++ beMinimal n) := by
  have hhead := head?_map_digitsBE_ne (r := alphabet.idxOf) (by decide) (fun _ => idxOf_alphaAt) n
  rw [decode, decNum_normal, Option.map_some, leadingOnes_eq, encBody_eq, List.append_nil,
    lead_dropLast _ _ hhead, numBytes]
  by_cases hn : n = 0
  · subst hn
    obtain ⟨k, rfl⟩ := Nat.exists_eq_succ_of_ne_zero (h rfl)
    simp [digitsBE_zero, beMinimal, List.replicate_succ']
  · simp [hn, digitsBE_eq_nil_iff]

/-! ### length and first character from numeric bounds on the value

For the 111-character extended keys (C07) and the first character of a WIF string (C09). -/

theorem encode_of_bounds {data : Bytes} (h : data.head? ≠ some 0) {a b d : Nat} (ha : 0 < a)
    (hb : b ≤ 58) (h1 : a * 58 ^ d ≤ beToNat data) (h2 : beToNat data < b * 58 ^ d) :
    ∃ x tl, encode data = alphaAt x :: tl ∧ tl.length = d ∧ a ≤ x ∧ x < b := by
  have hpos : 0 < 58 ^ d := Nat.pow_pos (by decide)
  obtain ⟨rest, hr, hl⟩ := digitsBE_of_bounds (b := 58) (by decide) d (beToNat data)
    (Nat.le_trans (Nat.le_mul_of_pos_left _ ha) h1)
    (Nat.lt_of_lt_of_le h2 (by rw [Nat.pow_succ, Nat.mul_comm (58 ^ d)]; exact Nat.mul_le_mul_right _ hb))
  -- no zero byte in front, so no `'1'` in front of the digits of the value
  have he : encode data = (digitsBE 58 (beToNat data)).map alphaAt := by
    rw [encode, leadingZeros_eq, show lead 0 data = 0 from lead_replicate_append 0 0 h, encBody_eq,
      List.append_nil]
    rfl
  exact ⟨_, rest.map alphaAt, by rw [he, hr]; rfl, by simp [hl],
    (Nat.le_div_iff_mul_le hpos).mpr h1, (Nat.div_lt_iff_lt_mul hpos).mpr h2⟩

/-- `h0` says that `pre` has no leading zero byte; the value of `pre ++ rest` lies in
`[pre·256^r, (pre+1)·256^r)` for `r` bytes of `rest` -/
theorem encode_append_of_bounds (pre rest : Bytes) (h0 : 256 ^ (pre.length - 1) ≤ beToNat pre)
    {a b d : Nat} (ha : 0 < a) (hb : b ≤ 58) (h1 : a * 58 ^ d ≤ beToNat pre * 256 ^ rest.length)
    (h2 : (beToNat pre + 1) * 256 ^ rest.length ≤ b * 58 ^ d) :
    ∃ x tl, encode (pre ++ rest) = alphaAt x :: tl ∧ tl.length = d ∧ a ≤ x ∧ x < b := by
  have hv := beToNat_append pre rest
  have := beToNat_lt rest
  rw [Nat.add_mul] at h2
  refine encode_of_bounds ?_ ha hb (by omega) (by omega)
  cases pre with
  | nil => simp [beToNat] at h0
  | cons p ps => exact head_ne_zero_of_le (bs := p :: ps) h0

/-- **111 characters**: a 78-byte payload whose first four bytes are a version `v` in the
range `[2^24, 79029636]` (all twelve SLIP-132 versions lie there) has a 111-character
Base58Check string, because `58^110 ≤ 2^24·256^78` and `79029637·256^78 ≤ 58^111`. -/
theorem encodeCheck_length_111 (h : Bytes → Bytes) (hlen : ∀ x, 4 ≤ (h x).length)
    (payload : Bytes) (hp : payload.length = 78) (v : Nat) (hv : payload.take 4 = beFixed 4 v)
    (hlo : 2 ^ 24 ≤ v) (hhi : v ≤ 79029636) : (encodeCheck h payload).length = 111 := by
  have hsplit : payload ++ (h payload).take 4
      = beFixed 4 v ++ (payload.drop 4 ++ (h payload).take 4) := by
    rw [← hv, ← List.append_assoc, List.take_append_drop]
  have hrest : (payload.drop 4 ++ (h payload).take 4).length = 78 := by
    have := hlen payload
    simp [hp]; omega
  have hval : beToNat (beFixed 4 v) = v := beToNat_beFixed (by omega)
  have g1 : 2 ^ 24 * 256 ^ 78 ≤ v * 256 ^ 78 := Nat.mul_le_mul_right _ hlo
  have g2 : (v + 1) * 256 ^ 78 ≤ 79029637 * 256 ^ 78 := Nat.mul_le_mul_right _ (by omega)
  unfold encodeCheck
  rw [hsplit]
  obtain ⟨x, tl, he, hl, _⟩ := encode_append_of_bounds (beFixed 4 v) _ (a := 1) (b := 58) (d := 110)
    (by rw [hval, beFixed_length]; omega) (by decide) (Nat.le_refl _)
    (by rw [hval, hrest]; exact Nat.le_trans (by norm_num) g1)
    (by rw [hval, hrest]; exact Nat.le_trans g2 (by norm_num))
  rw [he, List.length_cons, hl]

end BtcHd.Base58
