/-
The concrete SEC parser of `Prims/Secp256k1.lean` (the one the driver runs and the harness compares
with python-ecdsa) by input length, and what is read off that: whatever it accepts is a point on the
curve, and which inputs it rejects.  No group theory is needed here.
-/
import BtcHd.Prims.Secp256k1

namespace BtcHd.Real.Secp
open BtcHd

/-- the `xy` helper inside `parse` -/
def xyf (x y : Nat) : Option Pt := if onCurve x y then some (some (x, y)) else none

theorem xyf_eq_some {x y : Nat} {pt : Pt} :
    xyf x y = some pt ↔ pt = some (x, y) ∧ onCurve x y = true := by
  unfold xyf
  split
  · next hc => exact ⟨fun h => ⟨(Option.some.inj h).symm, hc⟩, fun h => h.1 ▸ rfl⟩
  · next hc => exact ⟨nofun, fun h => absurd h.2 hc⟩

/-- raw form: `x ‖ y` -/
theorem parse_64 {bs : Bytes} (hl : bs.length = 64) :
    parse bs = xyf (beToNat (bs.take 32)) (beToNat (bs.drop 32)) := by
  unfold parse
  simp only [hl]
  rfl

/-- compressed form (prefix `02`/`03` for the parity of `y`) -/
theorem parse_33 {pre : UInt8} {rest : Bytes} {pt : Pt} (hl : (pre :: rest).length = 33) :
    parse (pre :: rest) = some pt ↔ (pre = 2 ∨ pre = 3) ∧ beToNat rest < p ∧
      ∃ r, sqrt? ((beToNat rest * beToNat rest % p * beToNat rest + 7) % p) = some r ∧
        xyf (beToNat rest) (if (r % 2 = 1) = (pre = 3) then r else p - r) = some pt := by
  unfold parse
  simp only [hl]
  by_cases hpre : pre = 2 ∨ pre = 3
  · by_cases hx : beToNat rest < p
    · cases hs : sqrt? ((beToNat rest * beToNat rest % p * beToNat rest + 7) % p) <;>
        simp [xyf]
    · simp [hx]
  · simp [hpre]

/-- uncompressed form (prefix `04`), or hybrid (`06`/`07` matching the parity of `y`) -/
theorem parse_65 {pre : UInt8} {rest : Bytes} {pt : Pt} (hl : (pre :: rest).length = 65) :
    parse (pre :: rest) = some pt ↔
      (pre = 4 ∨ (pre = 6 ∨ pre = 7) ∧ (beToNat (rest.drop 32) % 2 = 1) = (pre = 7)) ∧
        xyf (beToNat (rest.take 32)) (beToNat (rest.drop 32)) = some pt := by
  unfold parse
  simp only [hl]
  by_cases h4 : pre = 4
  · simp [h4, xyf]
  · by_cases h67 : pre = 6 ∨ pre = 7
    · by_cases hpar : (beToNat (rest.drop 32) % 2 = 1) = (pre = 7) <;> simp [h67, hpar, xyf]
    · simp [h4, h67]

theorem parse_wrong_length (bs : Bytes) (h33 : bs.length ≠ 33) (h64 : bs.length ≠ 64)
    (h65 : bs.length ≠ 65) : parse bs = none := by
  unfold parse
  split
  · omega
  · omega
  · omega
  · rfl

theorem parse_sound (bs : Bytes) (pt : Pt) (h : parse bs = some pt) :
    (∃ x y, pt = some (x, y) ∧ onCurve x y = true) ∧
      (bs.length = 33 ∨ bs.length = 64 ∨ bs.length = 65) := by
  have hxy : ∀ {x y}, xyf x y = some pt → ∃ x y, pt = some (x, y) ∧ onCurve x y = true :=
    fun h => ⟨_, _, xyf_eq_some.mp h⟩
  by_cases h64 : bs.length = 64
  · rw [parse_64 h64] at h
    exact ⟨hxy h, .inr (.inl h64)⟩
  match bs with
  | pre :: rest =>
    by_cases h33 : (pre :: rest).length = 33
    · obtain ⟨_, _, _, _, h⟩ := (parse_33 h33).mp h
      exact ⟨hxy h, .inl h33⟩
    by_cases h65 : (pre :: rest).length = 65
    · exact ⟨hxy ((parse_65 h65).mp h).2, .inr (.inr h65)⟩
    rw [parse_wrong_length _ h33 h64 h65] at h
    cases h

theorem parse_bad_prefix (pre : UInt8) (rest : Bytes) (hl : (pre :: rest).length = 33)
    (h2 : pre ≠ 2) (h3 : pre ≠ 3) : parse (pre :: rest) = none :=
  Option.eq_none_iff_forall_ne_some.mpr fun _ h => ((parse_33 hl).mp h).1.elim h2 h3

theorem parse_compressed_off_curve (pre : UInt8) (rest : Bytes) (hl : (pre :: rest).length = 33)
    (h : p ≤ beToNat rest ∨
      sqrt? ((beToNat rest * beToNat rest % p * beToNat rest + 7) % p) = none) :
    parse (pre :: rest) = none := by
  refine Option.eq_none_iff_forall_ne_some.mpr fun pt hpt => ?_
  obtain ⟨_, hx, r, hr, _⟩ := (parse_33 hl).mp hpt
  rcases h with h | h
  · omega
  · rw [h] at hr; cases hr

theorem parse_uncompressed_off_curve (pre : UInt8) (rest : Bytes)
    (hl : (pre :: rest).length = 65)
    (h : onCurve (beToNat (rest.take 32)) (beToNat (rest.drop 32)) = false) :
    parse (pre :: rest) = none := by
  refine Option.eq_none_iff_forall_ne_some.mpr fun pt hpt => ?_
  have := (xyf_eq_some.mp ((parse_65 hl).mp hpt).2).2
  rw [h] at this; cases this

end BtcHd.Real.Secp
