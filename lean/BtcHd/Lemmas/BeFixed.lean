/-
Fixed-width byte strings (`int.to_bytes(len, order)` / `int.from_bytes`): length, round trips,
concatenation and value bounds, for both byte orders.

The little-endian functions recurse on the head of the list, so their facts are plain inductions; the
big-endian ones are the same functions on the reversed list (`beFixed_eq_reverse`,
`beToNat_eq_reverse`), and their facts are read off the little-endian ones.  Core Lean only.
-/
import BtcHd.Model.Basic

namespace BtcHd.BeFixed
open BtcHd

theorem leFixed_length (len n : Nat) : (leFixed len n).length = len := by
  induction len generalizing n with
  | zero => rfl
  | succ len ih => rw [leFixed, List.length_cons, ih]

theorem leToNat_append (xs ys : Bytes) :
    leToNat (xs ++ ys) = leToNat xs + 256 ^ xs.length * leToNat ys := by
  induction xs with
  | nil => simp [leToNat]
  | cons b xs ih =>
    rw [List.cons_append, leToNat, ih, leToNat, List.length_cons, Nat.pow_succ]
    rw [Nat.mul_add, Nat.mul_comm (256 ^ xs.length) 256, Nat.mul_assoc, Nat.add_assoc]

theorem leToNat_lt (bs : Bytes) : leToNat bs < 256 ^ bs.length := by
  induction bs with
  | nil => exact Nat.one_pos
  | cons b bs ih =>
    have := b.toNat_lt
    rw [leToNat, List.length_cons, Nat.pow_succ]
    omega

theorem leToNat_leFixed_mod (len n : Nat) : leToNat (leFixed len n) = n % 256 ^ len := by
  induction len generalizing n with
  | zero => rw [Nat.pow_zero, Nat.mod_one]; rfl
  | succ len ih =>
    rw [leFixed, leToNat, ih, UInt8.toNat_ofNat_of_lt' (Nat.mod_lt n (by decide)),
      Nat.pow_succ (n := 256), Nat.mul_comm (256 ^ len), Nat.mod_mul]

theorem leToNat_leFixed {len n : Nat} (h : n < 256 ^ len) : leToNat (leFixed len n) = n := by
  rw [leToNat_leFixed_mod, Nat.mod_eq_of_lt h]

theorem leFixed_leToNat {len : Nat} {bs : Bytes} (h : bs.length = len) :
    leFixed len (leToNat bs) = bs := by
  subst h
  induction bs with
  | nil => rfl
  | cons b bs ih =>
    have := b.toNat_lt
    rw [List.length_cons, leToNat, leFixed, Nat.add_mul_mod_self_left, Nat.add_mul_div_left _ _ (by decide),
      Nat.mod_eq_of_lt this, Nat.div_eq_of_lt this, Nat.zero_add, ih, UInt8.ofNat_toNat]

theorem toBytesLE_eq_some {len n : Nat} (h : n < 256 ^ len) :
    toBytesLE len n = some (leFixed len n) :=
  if_pos h

/-! ### big-endian is little-endian on the reversed list -/

theorem beFixed_eq_reverse (len n : Nat) : beFixed len n = (leFixed len n).reverse := by
  induction len generalizing n with
  | zero => rfl
  | succ len ih => rw [beFixed, leFixed, List.reverse_cons, ih]

theorem beToNat_concat (bs : Bytes) (b : UInt8) :
    beToNat (bs ++ [b]) = beToNat bs * 256 + b.toNat := by
  simp [beToNat]

theorem beToNat_eq_reverse (bs : Bytes) : beToNat bs = leToNat bs.reverse := by
  -- the induction goes on the little-endian side, where `cons` is the recursion
  have h : ∀ l : Bytes, leToNat l = beToNat l.reverse := by
    intro l
    induction l with
    | nil => rfl
    | cons b l ih => rw [List.reverse_cons, beToNat_concat, ← ih, leToNat]; omega
  rw [h, List.reverse_reverse]

theorem beFixed_length (len n : Nat) : (beFixed len n).length = len := by
  rw [beFixed_eq_reverse, List.length_reverse, leFixed_length]

theorem beToNat_nil : beToNat ([] : Bytes) = 0 := rfl

theorem beToNat_append (xs ys : Bytes) :
    beToNat (xs ++ ys) = beToNat xs * 256 ^ ys.length + beToNat ys := by
  rw [beToNat_eq_reverse, List.reverse_append, leToNat_append, List.length_reverse,
    ← beToNat_eq_reverse, ← beToNat_eq_reverse, Nat.mul_comm, Nat.add_comm]

theorem beToNat_cons (b : UInt8) (bs : Bytes) :
    beToNat (b :: bs) = b.toNat * 256 ^ bs.length + beToNat bs := by
  rw [← List.singleton_append, beToNat_append]
  simp [beToNat]

theorem beToNat_zero_cons (bs : Bytes) : beToNat (0 :: bs) = beToNat bs := by
  rw [beToNat_cons]; simp

theorem beToNat_lt (bs : Bytes) : beToNat bs < 256 ^ bs.length := by
  rw [beToNat_eq_reverse, ← List.length_reverse]; exact leToNat_lt _

theorem beToNat_beFixed_mod (len n : Nat) : beToNat (beFixed len n) = n % 256 ^ len := by
  rw [beToNat_eq_reverse, beFixed_eq_reverse, List.reverse_reverse, leToNat_leFixed_mod]

theorem beToNat_beFixed {len n : Nat} (h : n < 256 ^ len) : beToNat (beFixed len n) = n := by
  rw [beToNat_beFixed_mod, Nat.mod_eq_of_lt h]

theorem beFixed_beToNat {len : Nat} {bs : Bytes} (h : bs.length = len) :
    beFixed len (beToNat bs) = bs := by
  rw [beFixed_eq_reverse, beToNat_eq_reverse, leFixed_leToNat (by rw [List.length_reverse, h]),
    List.reverse_reverse]

/-- a byte string whose value needs all its bytes does not start with a zero byte -/
theorem head_ne_zero_of_le {bs : Bytes} (h : 256 ^ (bs.length - 1) ≤ beToNat bs) :
    bs.head? ≠ some 0 := by
  cases bs with
  | nil => simp
  | cons b rest =>
    intro hb
    simp only [List.head?_cons, Option.some.injEq] at hb
    subst hb
    rw [beToNat_zero_cons] at h
    have := beToNat_lt rest
    simp only [List.length_cons, Nat.add_sub_cancel] at h
    omega

theorem beToNat_inj {xs ys : Bytes} (hl : xs.length = ys.length)
    (h : beToNat xs = beToNat ys) : xs = ys := by
  rw [← beFixed_beToNat (bs := xs) rfl, ← beFixed_beToNat (bs := ys) rfl, hl, h]

theorem toBytesBE_eq_some {len n : Nat} (h : n < 256 ^ len) :
    toBytesBE len n = some (beFixed len n) :=
  if_pos h

theorem toBytesBE_eq_none {len n : Nat} (h : 256 ^ len ≤ n) : toBytesBE len n = none :=
  if_neg (Nat.not_lt.mpr h)

end BtcHd.BeFixed

namespace BtcHd.BytesL
open BtcHd

/-- the converse of `BeFixed.toBytesBE_eq_some` -/
theorem toBytesBE_eq_some {len n : Nat} {bs : Bytes} (h : toBytesBE len n = some bs) :
    n < 256 ^ len ∧ bs = beFixed len n := by
  unfold toBytesBE at h
  split at h
  · exact ⟨‹_›, (Option.some.inj h).symm⟩
  · cases h

end BtcHd.BytesL
