/-
Lemmas about the JSON text layer `Model/JsonText.lean`: the string escaper and its inverse, whitespace
skipping, and the parser run on the output of the printer.
-/
import BtcHd.Model.JsonText

namespace BtcHd.JsonText
open BtcHd.Wallet (Json)

/-- `' '`..`'~'`: what `ensure_ascii` does not turn into a `\uXXXX` escape (of these, the quote and the
backslash get a backslash in front) -/
def Printable (c : Char) : Prop := 0x20 ≤ c.toNat ∧ c.toNat ≤ 0x7e

instance (c : Char) : Decidable (Printable c) := by unfold Printable; infer_instance

/-- `∀ c ∈ l, P c` under a name, so that `.cons` / `.append` can follow the printer clause by clause -/
def AllC (P : Char → Prop) (l : List Char) : Prop := ∀ c ∈ l, P c

theorem AllC.nil {P : Char → Prop} : AllC P [] := fun _ h => nomatch h

theorem AllC.cons {P : Char → Prop} {c : Char} {l : List Char} (hc : P c) (hl : AllC P l) :
    AllC P (c :: l) :=
  List.forall_mem_cons.2 ⟨hc, hl⟩

theorem AllC.append {P : Char → Prop} {l m : List Char} (hl : AllC P l) (hm : AllC P m) :
    AllC P (l ++ m) :=
  List.forall_mem_append.2 ⟨hl, hm⟩

theorem hexDigit_spec (n : Nat) :
    Printable (hexDigit (n % 16)) ∧ hexVal? (hexDigit (n % 16)) = some (n % 16) :=
  (by decide : ∀ k < 16, Printable (hexDigit k) ∧ hexVal? (hexDigit k) = some k) _
    (Nat.mod_lt _ (by decide))

theorem hex4?_hex4 (n : Nat) (h : n < 65536) (tail : List Char) :
    hex4? (hex4 n ++ tail) = some (n, tail) := by
  simp only [hex4, List.cons_append, List.nil_append, hex4?, fun k => (hexDigit_spec k).2,
    Option.bind_some, Option.map_some]
  congr 2
  omega

theorem unicodeEscape?_bmp (n : Nat) (h : n < 0x10000) (hs : n < 0xd800 ∨ 0xdfff < n)
    (tail : List Char) : unicodeEscape? (hex4 n ++ tail) = some (Char.ofNat n, tail) := by
  unfold unicodeEscape?
  rw [hex4?_hex4 n h]
  simp only [Option.bind_some]
  rw [if_neg (by omega), if_neg (by omega)]

theorem unescapeStep_backslash (e : Char) (r : List Char) :
    unescapeStep ('\\' :: e :: r) =
      if e = 'u' then unicodeEscape? r else (shortEscape? e).map fun x => (x, r) := rfl

theorem unescapeStep_uEscape (n : Nat) (tail : List Char) :
    unescapeStep (uEscape n ++ tail) = unicodeEscape? (hex4 n ++ tail) := rfl

theorem unicodeEscape?_pair (v : Nat) (h : v < 0x100000) (tail : List Char) :
    unicodeEscape? (hex4 (0xd800 + v / 1024) ++ (uEscape (0xdc00 + v % 1024) ++ tail)) =
      some (Char.ofNat (0x10000 + v), tail) := by
  unfold unicodeEscape?
  rw [hex4?_hex4 _ (by omega)]
  simp only [Option.bind_some]
  rw [if_pos (by omega)] -- the first number is a high surrogate
  rw [show uEscape (0xdc00 + v % 1024) ++ tail = '\\' :: 'u' :: (hex4 (0xdc00 + v % 1024) ++ tail)
    from rfl]
  dsimp only
  rw [if_pos ⟨rfl, rfl⟩, hex4?_hex4 _ (by omega)] -- a second `\u` follows
  simp only [Option.bind_some]
  rw [if_pos (by omega)] -- the second number is a low surrogate
  rw [show 65536 + (55296 + v / 1024 - 55296) * 1024 + (56320 + v % 1024 - 56320) = 65536 + v
    by omega]

/-- `escapeChar` by kind of character: one of the seven one-letter escapes; a printable character
other than `"` and `\\`, kept; any other character of the basic plane as `\uXXXX`; an astral one as a
surrogate pair -/
theorem escapeChar_cases (c : Char) :
    (∃ e, escapeChar c = ['\\', e] ∧ e ≠ 'u' ∧ shortEscape? e = some c ∧ Printable e) ∨
    (escapeChar c = [c] ∧ Printable c ∧ c ≠ '"' ∧ c ≠ '\\') ∨
    (escapeChar c = uEscape c.toNat ∧ c.toNat < 0x10000) ∨
    (escapeChar c = uEscape (0xd800 + (c.toNat - 0x10000) / 1024) ++
        uEscape (0xdc00 + (c.toNat - 0x10000) % 1024) ∧ 0x10000 ≤ c.toNat) := by
  by_cases hs : c = '"' ∨ c = '\\' ∨ c = '\n' ∨ c = '\r' ∨ c = '\t' ∨ c = Char.ofNat 8 ∨
      c = Char.ofNat 12
  · rcases hs with rfl | rfl | rfl | rfl | rfl | rfl | rfl <;>
      exact .inl ⟨_, rfl, by decide, rfl, by decide⟩
  · simp only [not_or] at hs
    obtain ⟨h1, h2, h3, h4, h5, h6, h7⟩ := hs
    rw [escapeChar, if_neg h1, if_neg h2, if_neg h3, if_neg h4, if_neg h5, if_neg h6, if_neg h7]
    by_cases hp : 0x20 ≤ c.toNat ∧ c.toNat ≤ 0x7e
    · exact .inr (.inl ⟨if_pos hp, hp, h1, h2⟩)
    · rw [if_neg hp]
      by_cases hb : c.toNat < 0x10000
      · exact .inr (.inr (.inl ⟨if_pos hb, hb⟩))
      · exact .inr (.inr (.inr ⟨if_neg hb, Nat.le_of_not_lt hb⟩))

theorem unescapeStep_escapeChar (c : Char) (tail : List Char) :
    unescapeStep (escapeChar c ++ tail) = some (c, tail) := by
  have hv : c.toNat < 0xd800 ∨ (0xdfff < c.toNat ∧ c.toNat < 0x110000) := c.valid
  rcases escapeChar_cases c with ⟨e, he, hu, hs, _⟩ | ⟨he, hp, hq, hb⟩ | ⟨he, hb⟩ | ⟨he, hb⟩ <;>
    rw [he]
  · rw [List.cons_append, List.cons_append, unescapeStep_backslash, if_neg hu, hs]
    rfl
  · simp only [List.cons_append, List.nil_append, unescapeStep, if_neg hb, if_neg hq,
      if_neg (Nat.not_lt.2 hp.1)]
  · rw [unescapeStep_uEscape, unicodeEscape?_bmp _ hb (by omega), Char.ofNat_toNat]
  · rw [List.append_assoc, unescapeStep_uEscape, unicodeEscape?_pair _ (by omega),
      show 0x10000 + (c.toNat - 0x10000) = c.toNat by omega, Char.ofNat_toNat]

theorem uEscape_printable (n : Nat) : AllC Printable (uEscape n) :=
  .cons (by decide) (.cons (by decide) (.cons (hexDigit_spec _).1 (.cons (hexDigit_spec _).1
    (.cons (hexDigit_spec _).1 (.cons (hexDigit_spec _).1 .nil)))))

theorem escapeChar_printable (c : Char) : AllC Printable (escapeChar c) := by
  rcases escapeChar_cases c with ⟨e, he, _, _, hp⟩ | ⟨he, hp, _⟩ | ⟨he, _⟩ | ⟨he, _⟩ <;> rw [he]
  · exact .cons (by decide) (.cons hp .nil)
  · exact .cons hp .nil
  · exact uEscape_printable _
  · exact .append (uEscape_printable _) (uEscape_printable _)

theorem unescapeStep_head {cs : List Char} {p : Char × List Char} (h : unescapeStep cs = some p) :
    ∃ c r, cs = c :: r ∧ c ≠ '"' := by
  cases cs with
  | nil => cases h
  | cons c r =>
    refine ⟨c, r, rfl, ?_⟩
    rintro rfl
    cases h

theorem escapeChar_head (c : Char) : ∃ h t, escapeChar c = h :: t ∧ h ≠ '"' := by
  simpa only [List.append_nil] using unescapeStep_head (unescapeStep_escapeChar c [])

theorem escape_nil : escape [] = [] := rfl

theorem escape_cons (c : Char) (s : List Char) : escape (c :: s) = escapeChar c ++ escape s :=
  List.flatMap_cons

theorem escape_append (s t : List Char) : escape (s ++ t) = escape s ++ escape t :=
  List.flatMap_append

theorem escape_printable (s : List Char) : AllC Printable (escape s) := by
  intro x hx
  obtain ⟨c, _, hc⟩ := List.mem_flatMap.1 hx
  exact escapeChar_printable c x hc

theorem parseStrBody_of_unescapeStep {cs r : List Char} {x : Char}
    (h : unescapeStep cs = some (x, r)) (f : Nat) :
    parseStrBody (f + 1) cs = (parseStrBody f r).map fun p => (x :: p.1, p.2) := by
  obtain ⟨c, r', rfl, hq⟩ := unescapeStep_head h
  rw [parseStrBody, if_neg hq, h]
  rfl

theorem parseStrBody_escape (s : List Char) : ∀ (f : Nat) (tail : List Char), (escape s).length < f →
    parseStrBody f (escape s ++ '"' :: tail) = some (s, tail) := by
  induction s with
  | nil =>
    intro f tail hf
    obtain ⟨f, rfl⟩ := Nat.exists_eq_add_one_of_ne_zero (Nat.ne_zero_of_lt hf)
    simp only [escape_nil, List.nil_append, parseStrBody, if_true]
  | cons c s ih =>
    intro f tail hf
    obtain ⟨f, rfl⟩ := Nat.exists_eq_add_one_of_ne_zero (Nat.ne_zero_of_lt hf)
    -- an escape is not empty, so there is fuel left for the rest
    obtain ⟨h, t, e, _⟩ := escapeChar_head c
    have hs : (escape s).length < f := by
      rw [escape_cons, e, List.cons_append, List.length_cons, List.length_append] at hf
      omega
    rw [escape_cons, List.append_assoc, parseStrBody_of_unescapeStep (unescapeStep_escapeChar c _),
      ih f tail hs]
    rfl

theorem dumpStr_append (s rest : List Char) :
    dumpStr s ++ rest = '"' :: (escape s ++ '"' :: rest) := by
  simp only [dumpStr, List.cons_append, List.append_assoc, List.nil_append]

theorem parseString_dumpStr (s : List Char) (rest : List Char) :
    parseString (dumpStr s ++ rest) = some (s, rest) := by
  rw [dumpStr_append, parseString, if_pos rfl]
  apply parseStrBody_escape
  rw [List.length_append]
  omega

/-- a run of JSON whitespace, which every parser function skips in front of a token -/
def AllWs (w : List Char) : Prop := ∀ c ∈ w, isWs c = true

theorem skipWs_append {w : List Char} (hw : AllWs w) (cs : List Char) :
    skipWs (w ++ cs) = skipWs cs := by
  induction w with
  | nil => rfl
  | cons c w ih =>
    rw [List.cons_append, skipWs, if_pos (hw c List.mem_cons_self)]
    exact ih fun x hx => hw x (List.mem_cons_of_mem _ hx)

theorem skipWs_cons_of_not {c : Char} (hc : isWs c = false) (cs : List Char) :
    skipWs (c :: cs) = c :: cs := by
  rw [skipWs, if_neg (by rw [hc]; exact Bool.false_ne_true)]

theorem mem_nlIndent {ind : Option Nat} {lvl : Nat} {c : Char} (h : c ∈ nlIndent ind lvl) :
    c = ' ' ∨ (c = '\n' ∧ ind ≠ none) := by
  cases ind with
  | none => cases h
  | some k =>
    rcases List.mem_cons.1 h with rfl | h
    · exact .inr ⟨rfl, Option.some_ne_none k⟩
    · exact .inl (List.eq_of_mem_replicate h)

theorem allWs_nlIndent (ind : Option Nat) (lvl : Nat) : AllWs (nlIndent ind lvl) := by
  intro c hc
  rcases mem_nlIndent hc with rfl | ⟨rfl, _⟩ <;> rfl

theorem itemSep_eq (ind : Option Nat) : ∃ u, itemSep ind = ',' :: u ∧ AllWs u := by
  cases ind with
  | none => exact ⟨[' '], rfl, (by decide : ∀ c ∈ [' '], isWs c = true)⟩
  | some k => exact ⟨[], rfl, fun _ h => nomatch h⟩

theorem parseValue_ws {w : List Char} (hw : AllWs w) (f : Nat) (cs : List Char) :
    parseValue f (w ++ cs) = parseValue f cs := by
  cases f with
  | zero => simp only [parseValue]
  | succ f => simp only [parseValue, skipWs_append hw]

theorem parseArrRest_ws {w : List Char} (hw : AllWs w) (f : Nat) (cs : List Char) :
    parseArrRest f (w ++ cs) = parseArrRest f cs := by
  cases f with
  | zero => simp only [parseArrRest]
  | succ f => simp only [parseArrRest, skipWs_append hw]

theorem parseObjRest_ws {w : List Char} (hw : AllWs w) (f : Nat) (cs : List Char) :
    parseObjRest f (w ++ cs) = parseObjRest f cs := by
  cases f with
  | zero => simp only [parseObjRest]
  | succ f => simp only [parseObjRest, skipWs_append hw]

theorem parseValue_str (f : Nat) (s rest : List Char) :
    parseValue (f + 1) (dumpStr s ++ rest) = some (Json.str s, rest) := by
  have h := parseString_dumpStr s rest
  rw [dumpStr_append] at h ⊢
  rw [parseValue, skipWs_cons_of_not (by decide)]
  dsimp only
  rw [if_pos rfl, h]
  rfl

theorem parseValue_head {f : Nat} {cs : List Char} {p : Json × List Char}
    (h : parseValue f cs = some p) : (skipWs cs).head? ≠ some ']' := by
  intro hc
  obtain ⟨r, hs⟩ := List.head?_eq_some_iff.mp hc
  cases f with
  | zero => simp only [parseValue] at h; cases h
  | succ f =>
    rw [parseValue, hs] at h
    cases h

theorem parseValue_arr_cons (f : Nat) {r : List Char} {p : Json × List Char}
    (h : parseValue f r = some p) :
    parseValue (f + 1) ('[' :: r) =
      (parseArrRest f p.2).map fun q => (Json.arr (p.1 :: q.1), q.2) := by
  rw [parseValue, skipWs_cons_of_not (by decide)]
  dsimp only
  rw [if_neg (by decide), if_neg (by decide), if_pos rfl, if_neg (parseValue_head h), h]
  rfl

theorem parseArrRest_comma (f : Nat) {r : List Char} {p : Json × List Char}
    (h : parseValue f r = some p) :
    parseArrRest (f + 1) (',' :: r) = (parseArrRest f p.2).map fun q => (p.1 :: q.1, q.2) := by
  rw [parseArrRest, skipWs_cons_of_not (by decide)]
  dsimp only
  rw [if_neg (by decide), if_pos rfl, h]
  rfl

theorem parseMember_head {pv : List Char → Option (Json × List Char)} {cs : List Char}
    {p : (List Char × Json) × List Char} (h : parseMember pv cs = some p) :
    (skipWs cs).head? ≠ some '}' := by
  intro hc
  obtain ⟨r, hs⟩ := List.head?_eq_some_iff.mp hc
  rw [parseMember, hs] at h
  cases h

theorem parseMember_ws {pv : List Char → Option (Json × List Char)} {w : List Char} (hw : AllWs w)
    (cs : List Char) : parseMember pv (w ++ cs) = parseMember pv cs := by
  rw [parseMember, parseMember, skipWs_append hw]

theorem parseMember_dumpStr (f : Nat) (k : List Char) {cs : List Char} {p : Json × List Char}
    (h : parseValue f cs = some p) :
    parseMember (parseValue f) (dumpStr k ++ (keySep ++ cs)) = some ((k, p.1), p.2) := by
  rw [parseMember, dumpStr_append, skipWs_cons_of_not (by decide), ← dumpStr_append,
    parseString_dumpStr, Option.bind_some]
  -- after the colon `keySep` has a space left, which the value parser skips
  show (parseValue f ([' '] ++ cs)).map _ = _
  rw [parseValue_ws (by decide : ∀ c ∈ [' '], isWs c = true), h]
  rfl

theorem parseValue_obj_cons (f : Nat) {r : List Char} {p : (List Char × Json) × List Char}
    (h : parseMember (parseValue f) r = some p) :
    parseValue (f + 1) ('{' :: r) =
      (parseObjRest f p.2).map fun q => (Json.obj (p.1 :: q.1), q.2) := by
  rw [parseValue, skipWs_cons_of_not (by decide)]
  dsimp only
  rw [if_neg (by decide), if_neg (by decide), if_neg (by decide), if_pos rfl,
    if_neg (parseMember_head h), h]
  rfl

theorem parseObjRest_comma (f : Nat) {r : List Char} {p : (List Char × Json) × List Char}
    (h : parseMember (parseValue f) r = some p) :
    parseObjRest (f + 1) (',' :: r) = (parseObjRest f p.2).map fun q => (p.1 :: q.1, q.2) := by
  rw [parseObjRest, skipWs_cons_of_not (by decide)]
  dsimp only
  rw [if_neg (by decide), if_pos rfl, h]
  rfl

theorem dump_length_pos (ind : Option Nat) (lvl : Nat) (j : Json) : 0 < (dump ind lvl j).length := by
  match j with
  | .null | .str _ | .arr [] | .arr (_ :: _) | .obj [] | .obj (_ :: _) =>
    simp only [dump, dumpStr, List.length_cons, Nat.zero_lt_succ]

-- The three theorems follow `dump` / `dumpArrRest` / `dumpObjRest` clause by clause; the fuel `g` is what is left
-- after the opening bracket or the separator.
mutual
theorem parseValue_dump (ind : Option Nat) : (j : Json) → ∀ (lvl : Nat) (rest : List Char) (f : Nat),
    (dump ind lvl j).length ≤ f → parseValue f (dump ind lvl j ++ rest) = some (j, rest)
  | j, lvl, _, 0, hf => absurd hf (Nat.not_le.2 (dump_length_pos ind lvl j))
  | .null, lvl, rest, g + 1, _ => by rw [dump]; rfl
  | .str s, lvl, rest, g + 1, _ => by rw [dump]; exact parseValue_str g s rest
  | .arr [], lvl, rest, g + 1, _ => by rw [dump]; rfl
  | .obj [], lvl, rest, g + 1, _ => by rw [dump]; rfl
  | .arr (x :: xs), lvl, rest, g + 1, hf => by
    rw [dump] at hf ⊢
    simp only [List.length_cons, List.length_append] at hf
    have hx := parseValue_dump ind x (lvl + 1) (dumpArrRest ind lvl xs ++ rest) g (by omega)
    rw [← parseValue_ws (allWs_nlIndent ind (lvl + 1))] at hx
    simp only [List.cons_append, List.append_assoc]
    rw [parseValue_arr_cons g hx, parseArrRest_dump ind xs lvl rest g (by omega)]
    rfl
  | .obj (kv :: kvs), lvl, rest, g + 1, hf => by
    rw [dump] at hf ⊢
    simp only [List.length_cons, List.length_append] at hf
    have hm := parseMember_dumpStr g kv.1
      (parseValue_dump ind kv.2 (lvl + 1) (dumpObjRest ind lvl kvs ++ rest) g (by omega))
    rw [← parseMember_ws (allWs_nlIndent ind (lvl + 1))] at hm
    simp only [List.cons_append, List.append_assoc]
    rw [parseValue_obj_cons g hm, parseObjRest_dump ind kvs lvl rest g (by omega)]
    rfl
theorem parseArrRest_dump (ind : Option Nat) : (xs : List Json) → ∀ (lvl : Nat) (rest : List Char)
    (f : Nat), (dumpArrRest ind lvl xs).length ≤ f →
    parseArrRest f (dumpArrRest ind lvl xs ++ rest) = some (xs, rest)
  | [], lvl, rest, f, hf => by
    rw [dumpArrRest] at hf ⊢
    simp only [List.length_cons, List.length_append] at hf
    obtain ⟨g, rfl⟩ : ∃ g, f = g + 1 := ⟨f - 1, by omega⟩
    rw [List.append_assoc, parseArrRest_ws (allWs_nlIndent ind lvl)]
    rfl
  | x :: xs, lvl, rest, f, hf => by
    obtain ⟨u, eu, hu⟩ := itemSep_eq ind
    rw [dumpArrRest, eu] at hf ⊢
    simp only [List.length_cons, List.length_append] at hf
    obtain ⟨g, rfl⟩ : ∃ g, f = g + 1 := ⟨f - 1, by omega⟩
    have hx := parseValue_dump ind x (lvl + 1) (dumpArrRest ind lvl xs ++ rest) g (by omega)
    rw [← parseValue_ws (allWs_nlIndent ind (lvl + 1)), ← parseValue_ws hu] at hx
    simp only [List.cons_append, List.append_assoc]
    rw [parseArrRest_comma g hx, parseArrRest_dump ind xs lvl rest g (by omega)]
    rfl
theorem parseObjRest_dump (ind : Option Nat) : (kvs : List (List Char × Json)) → ∀ (lvl : Nat)
    (rest : List Char) (f : Nat), (dumpObjRest ind lvl kvs).length ≤ f →
    parseObjRest f (dumpObjRest ind lvl kvs ++ rest) = some (kvs, rest)
  | [], lvl, rest, f, hf => by
    rw [dumpObjRest] at hf ⊢
    simp only [List.length_cons, List.length_append] at hf
    obtain ⟨g, rfl⟩ : ∃ g, f = g + 1 := ⟨f - 1, by omega⟩
    rw [List.append_assoc, parseObjRest_ws (allWs_nlIndent ind lvl)]
    rfl
  | kv :: kvs, lvl, rest, f, hf => by
    obtain ⟨u, eu, hu⟩ := itemSep_eq ind
    rw [dumpObjRest, eu] at hf ⊢
    simp only [List.length_cons, List.length_append] at hf
    obtain ⟨g, rfl⟩ : ∃ g, f = g + 1 := ⟨f - 1, by omega⟩
    have hm := parseMember_dumpStr g kv.1
      (parseValue_dump ind kv.2 (lvl + 1) (dumpObjRest ind lvl kvs ++ rest) g (by omega))
    rw [← parseMember_ws (allWs_nlIndent ind (lvl + 1)), ← parseMember_ws hu] at hm
    simp only [List.cons_append, List.append_assoc]
    rw [parseObjRest_comma g hm, parseObjRest_dump ind kvs lvl rest g (by omega)]
    rfl
end

theorem loads_ws_dumps_ws (ind : Option Nat) (j : Json) {w₁ w₂ : List Char} (h₁ : AllWs w₁)
    (h₂ : AllWs w₂) : loads (w₁ ++ (dumps ind j ++ w₂)) = some j := by
  unfold loads
  rw [parseValue_ws h₁, dumps, parseValue_dump ind j 0 w₂ _ (by
    simp only [List.length_append]; omega)]
  dsimp only
  rw [← List.append_nil w₂, skipWs_append h₂]
  rfl

theorem allC_of_printable {P : Char → Prop} (hp : ∀ c, Printable c → P c) {l : List Char}
    (hl : ∀ c ∈ l, Printable c) : AllC P l :=
  fun c hc => hp c (hl c hc)

theorem allC_dumpStr {P : Char → Prop} (hp : ∀ c, Printable c → P c) (s : List Char) :
    AllC P (dumpStr s) :=
  allC_of_printable hp (AllC.cons (by decide) ((escape_printable s).append (.cons (by decide) .nil)))

theorem itemSep_printable (ind : Option Nat) : ∀ c ∈ itemSep ind, Printable c := by
  cases ind with
  | none => decide
  | some _ => exact (by decide : ∀ c ∈ [','], Printable c)

mutual
theorem allC_dump {P : Char → Prop} (ind : Option Nat) (hp : ∀ c, Printable c → P c)
    (hn : ∀ lvl, AllC P (nlIndent ind lvl)) : (j : Json) → ∀ lvl, AllC P (dump ind lvl j)
  | .null, lvl => by rw [dump]; exact allC_of_printable hp (by decide)
  | .str s, lvl => by rw [dump]; exact allC_dumpStr hp s
  | .arr [], lvl => by rw [dump]; exact allC_of_printable hp (by decide)
  | .obj [], lvl => by rw [dump]; exact allC_of_printable hp (by decide)
  | .arr (x :: xs), lvl => by
    rw [dump]
    exact .cons (hp _ (by decide)) (.append (hn _)
      (.append (allC_dump ind hp hn x _) (allC_dumpArrRest ind hp hn xs lvl)))
  | .obj (kv :: kvs), lvl => by
    rw [dump]
    exact .cons (hp _ (by decide)) (.append (hn _) (.append (allC_dumpStr hp _)
      (.append (allC_of_printable hp (by decide))
        (.append (allC_dump ind hp hn kv.2 _) (allC_dumpObjRest ind hp hn kvs lvl)))))
theorem allC_dumpArrRest {P : Char → Prop} (ind : Option Nat) (hp : ∀ c, Printable c → P c)
    (hn : ∀ lvl, AllC P (nlIndent ind lvl)) :
    (xs : List Json) → ∀ lvl, AllC P (dumpArrRest ind lvl xs)
  | [], lvl => by
    rw [dumpArrRest]; exact .append (hn _) (allC_of_printable hp (by decide))
  | x :: xs, lvl => by
    rw [dumpArrRest]
    exact .append (allC_of_printable hp (itemSep_printable ind)) (.append (hn _)
      (.append (allC_dump ind hp hn x _) (allC_dumpArrRest ind hp hn xs lvl)))
theorem allC_dumpObjRest {P : Char → Prop} (ind : Option Nat) (hp : ∀ c, Printable c → P c)
    (hn : ∀ lvl, AllC P (nlIndent ind lvl)) :
    (kvs : List (List Char × Json)) → ∀ lvl, AllC P (dumpObjRest ind lvl kvs)
  | [], lvl => by
    rw [dumpObjRest]; exact .append (hn _) (allC_of_printable hp (by decide))
  | kv :: kvs, lvl => by
    rw [dumpObjRest]
    exact .append (allC_of_printable hp (itemSep_printable ind)) (.append (hn _)
      (.append (allC_dumpStr hp _) (.append (allC_of_printable hp (by decide))
        (.append (allC_dump ind hp hn kv.2 _) (allC_dumpObjRest ind hp hn kvs lvl)))))
end

end BtcHd.JsonText
