/-
Lemmas for C13 (`Model/History.lean`).  The invariant `Inv` ties the node table to the recorded
paths.  `Ghost` is what is left of a state without its node table, and `pureStep` answers a call
from the ghost data and the root alone; `step_sim` says that `step` keeps `Inv` and refines
`pureStep`.  `step_frame` says what no call touches.  A generator request on the shared state is
answered as by `genStep`, the generator on its own (`advance_of_gen`).
-/
import Mathlib.Data.List.Forall2
import BtcHd.Lemmas.Basics
import BtcHd.Lemmas.Bip32
import BtcHd.Model.History

namespace BtcHd.History
open BtcHd Bip32 Wallet Basics

variable {Pt : Type}

theorem map_fst_eq_some {α β : Type} {o : Option (α × β)} {a : α} :
    o.map (·.1) = some a ↔ ∃ b, o = some (a, b) := by
  cases o with
  | none => simp
  | some e => cases e; simp

theorem set_of_getElem? {α : Type} {l : List α} {i : Nat} {a : α} (h : l[i]? = some a) :
    l.set i a = l := by
  obtain ⟨hlt, rfl⟩ := List.getElem?_eq_some_iff.mp h
  exact List.set_getElem_self hlt

theorem bump_length (l : List (Node × Nat)) (h k : Nat) : (bumpChildren l h k).length = l.length :=
  List.length_modify ..

theorem bump_getElem?_fst (l : List (Node × Nat)) (h k j : Nat) :
    ((bumpChildren l h k)[j]?).map (·.1) = (l[j]?).map (·.1) := by
  rw [bumpChildren, List.getElem?_modify]
  cases l[j]? with
  | none => rfl
  | some e => simp only [Option.map_eq_map, Option.map_some]; split <;> rfl

theorem bump_zero (l : List (Node × Nat)) (h : Nat) : bumpChildren l h 0 = l :=
  List.modify_id ..

-- `step` on the two calls whose code has `let`s, with the `let`s expanded
theorem step_byPath (P : Prims Pt) (s : State) (path : List Char) :
    step P s (.byPath path) =
      match Path.parse path with
      | none => (s, .err)
      | some p =>
        match derivePath P s.wallet.master p.levels with
        | none => (s, .err)
        | some n =>
          (if p.levels = [] then s
           else alloc { s with nodes := bumpChildren s.nodes 0 (if p.levels = [] then 0 else 1) } n
             p.levels, .node n) := rfl

theorem step_genChildren (P : Prims Pt) (s : State) (h a b : Nat) :
    step P s (.genChildren h a b) =
      match s.nodes[h]?, s.paths[h]? with
      | some (nd, _), some path =>
        match generateChildren P nd a b with
        | none => (s, .err)
        | some cs =>
          ((List.zip cs (List.range' a (b - a))).foldl
              (fun st ci => alloc st ci.1 (path ++ [ci.2]))
              { s with nodes := bumpChildren s.nodes h cs.length }, .nodes cs)
      | _, _ => (s, .err) := rfl

/-- what `gen.send(k)` / `next(gen)` adds to the generator's index (`adder or 1`) -/
def sendIncr : Option Nat → Nat
  | some k => if k = 0 then 1 else k
  | none => 1

/-- the index a generator derives next: `0` on the first `next`, else `index + (sent or 1)` -/
def advIndex (started : Bool) (index : Nat) (sent : Option Nat) : Nat :=
  if started then index + sendIncr sent else 0

/-- `step.advance` with the index it computes inline named as `advIndex` -/
theorem advance_eq (P : Prims Pt) (s : State) (g : Nat) (sent : Option Nat) :
    step.advance P s g sent =
      match s.gens[g]? with
      | none => (s, .err)
      | some gen =>
        if gen.dead then (s, .err)
        else if ¬ gen.started ∧ sent.isSome then (s, .err)
        else
          match s.nodes[gen.node]? with
          | none => (s, .err)
          | some (nd, _) =>
            match Bip32.ckd P nd (advIndex gen.started gen.index sent) with
            | none => ({ s with gens := s.gens.set g { gen with dead := true } }, .err)
            | some c =>
              match addrOf P s.wallet.testnet gen.kind c with
              | none =>
                ({ s with nodes := bumpChildren s.nodes gen.node 1,
                          gens := s.gens.set g { gen with dead := true } }, .err)
              | some a =>
                ({ s with nodes := bumpChildren s.nodes gen.node 1,
                          gens := s.gens.set g
                            { gen with started := true,
                                       index := advIndex gen.started gen.index sent } },
                 .pair (nodeRepr c) a) := by
  cases sent <;> rfl

/-- Every entry of the node table IS the pure derivation of the wallet's master node along
its recorded path; handle 0 is the master itself; generators point into the table.  (A generator
looks its node up at each request, so nothing more than an existing handle is needed of it.) -/
structure Inv (P : Prims Pt) (w : Wallet) (s : State) : Prop where
  wallet : s.wallet = w
  len : s.nodes.length = s.paths.length
  root : (s.nodes[0]?).map (·.1) = some w.master
  rootPath : s.paths[0]? = some []
  table : ∀ (h : Nat) (nd : Node) (c : Nat) (path : List Nat), s.nodes[h]? = some (nd, c) → s.paths[h]? = some path →
    derivePath P w.master path = some nd
  gens : ∀ gen ∈ s.gens, gen.node < s.nodes.length

theorem inv_init (P : Prims Pt) (w : Wallet) : Inv P w (init w) where
  wallet := rfl
  len := rfl
  root := rfl
  rootPath := rfl
  table := by
    intro h nd c path h1 h2
    cases h with
    | zero => cases h1; cases h2; rfl
    | succ n => cases h1
  gens := nofun

namespace Inv

variable {P : Prims Pt} {w : Wallet} {s : State}

theorem derive (hinv : Inv P w s) {h : Nat} {nd : Node} {c : Nat} {path : List Nat}
    (hn : s.nodes[h]? = some (nd, c)) (hp : s.paths[h]? = some path) : derivePath P w.master path = some nd :=
  hinv.table h nd c path hn hp

theorem nodes_pos (hinv : Inv P w s) : 0 < s.nodes.length := by
  obtain ⟨c, h⟩ := map_fst_eq_some.mp hinv.root
  exact (List.getElem?_eq_some_iff.mp h).1

theorem of_path (hinv : Inv P w s) {h : Nat} {path : List Nat} (hp : s.paths[h]? = some path) :
    ∃ nd c, s.nodes[h]? = some (nd, c) ∧ derivePath P w.master path = some nd :=
  have hlt : h < s.nodes.length := hinv.len ▸ (List.getElem?_eq_some_iff.mp hp).1
  ⟨_, _, List.getElem?_eq_getElem hlt, hinv.derive (List.getElem?_eq_getElem hlt) hp⟩

theorem of_node (hinv : Inv P w s) {h : Nat} {nd : Node} {c : Nat} (hn : s.nodes[h]? = some (nd, c)) :
    ∃ path, s.paths[h]? = some path ∧ derivePath P w.master path = some nd :=
  have hlt : h < s.paths.length := hinv.len ▸ (List.getElem?_eq_some_iff.mp hn).1
  ⟨_, List.getElem?_eq_getElem hlt, hinv.derive hn (List.getElem?_eq_getElem hlt)⟩

/-- `hx` is how `fun_cases` says that `step` found no node and path for the handle -/
theorem paths_none (hinv : Inv P w s) {h : Nat}
    (hx : ∀ nd c path, s.nodes[h]? = some (nd, c) → s.paths[h]? = some path → False) :
    s.paths[h]? = none := by
  cases hp : s.paths[h]? with
  | none => rfl
  | some path =>
    obtain ⟨nd, c, hn, _⟩ := hinv.of_path hp
    exact (hx nd c path hn hp).elim

theorem bump (hinv : Inv P w s) (h k : Nat) :
    Inv P w { s with nodes := bumpChildren s.nodes h k } where
  wallet := hinv.wallet
  len := (bump_length ..).trans hinv.len
  root := (bump_getElem?_fst ..).trans hinv.root
  rootPath := hinv.rootPath
  table := fun h' nd c path h1 h2 => by
    obtain ⟨c', hc'⟩ := map_fst_eq_some.mp
      ((bump_getElem?_fst ..).symm.trans (map_fst_eq_some.mpr ⟨c, h1⟩))
    exact hinv.derive hc' h2
  gens := fun gen hg => (bump_length ..).symm ▸ hinv.gens gen hg

theorem alloc (hinv : Inv P w s) {n : Node} {path : List Nat}
    (hd : derivePath P w.master path = some n) : Inv P w (alloc s n path) where
  wallet := hinv.wallet
  len := by simp [History.alloc, hinv.len]
  root := (congrArg _ (List.getElem?_append_left hinv.nodes_pos)).trans hinv.root
  rootPath := (List.getElem?_append_left (hinv.len ▸ hinv.nodes_pos)).trans hinv.rootPath
  table := fun h nd c p h1 h2 => by
    rcases Nat.lt_trichotomy h s.nodes.length with hlt | rfl | hgt
    · rw [History.alloc, List.getElem?_append_left hlt] at h1
      rw [History.alloc, List.getElem?_append_left (hinv.len ▸ hlt)] at h2
      exact hinv.derive h1 h2
    · rw [History.alloc, List.getElem?_concat_length] at h1
      rw [History.alloc, hinv.len, List.getElem?_concat_length] at h2
      cases h1; cases h2; exact hd
    · rw [History.alloc, List.getElem?_eq_none (by simp; omega)] at h1
      cases h1
  gens := fun gen hg => by
    rw [History.alloc, List.length_append]
    exact Nat.lt_add_right _ (hinv.gens gen hg)

theorem allocs (hinv : Inv P w s) {ps : List (List Nat)} {cs : List Node}
    (h : List.Forall₂ (fun p c => derivePath P w.master p = some c) ps cs) :
    Inv P w { s with nodes := s.nodes ++ cs.map (·, 0), paths := s.paths ++ ps } := by
  induction h generalizing s with
  | nil => simpa using hinv
  | cons h1 _ ih => simpa [History.alloc] using ih (hinv.alloc h1)

theorem set_gens (hinv : Inv P w s) {G : List Gen} (hG : ∀ gen ∈ G, gen.node < s.nodes.length) :
    Inv P w { s with gens := G } :=
  { hinv with gens := hG }

end Inv

/-- the fold in `generate_children`: every child gets a handle, with the parent's path extended by its index -/
theorem foldl_alloc_zip (path : List Nat) {cs : List Node} {is : List Nat}
    (hlen : cs.length = is.length) (st : State) :
    (List.zip cs is).foldl (fun st ci => alloc st ci.1 (path ++ [ci.2])) st =
      { st with nodes := st.nodes ++ cs.map (·, 0), paths := st.paths ++ is.map (path ++ [·]) } := by
  induction cs generalizing is st with
  | nil => cases is <;> simp_all
  | cons c cs ih =>
    cases is with
    | nil => cases hlen
    | cons i is =>
      rw [List.zip_cons_cons, List.foldl_cons, ih (Nat.succ.inj hlen)]
      simp [alloc]

/-- what is retained of a generator object: the PATH of the node it walks (not the node,
not a handle), the address kind, and its three counters/flags -/
structure GenView where
  path : List Nat
  kind : AddrKind
  started : Bool
  index : Nat
  dead : Bool

/-- the ghost data of a history: recorded path of every node handle and the view of every
generator handle.  It contains no key material and no node table. -/
structure Ghost where
  paths : List (List Nat)
  gens : List GenView

def viewOf (paths : List (List Nat)) (g : Gen) : GenView :=
  ⟨(paths[g.node]?).getD [], g.kind, g.started, g.index, g.dead⟩

def ghost (s : State) : Ghost := ⟨s.paths, s.gens.map (viewOf s.paths)⟩

/-- `next(gen)` / `gen.send(k)` answered from the root: the child is re-derived from
`w.master` along `path ++ [index]` -/
def pureAdvance (P : Prims Pt) (w : Wallet) (gh : Ghost) (g : Nat) (sent : Option Nat) :
    Ghost × Out :=
  match gh.gens[g]? with
  | none => (gh, .err)
  | some gv =>
    if gv.dead then (gh, .err)
    else if ¬ gv.started ∧ sent.isSome then (gh, .err)
    else
      match derivePath P w.master (gv.path ++ [advIndex gv.started gv.index sent]) with
      | none => ({ gh with gens := gh.gens.set g { gv with dead := true } }, .err)
      | some c =>
        match addrOf P w.testnet gv.kind c with
        | none => ({ gh with gens := gh.gens.set g { gv with dead := true } }, .err)
        | some a =>
          ({ gh with
              gens := gh.gens.set g
                { gv with started := true, index := advIndex gv.started gv.index sent } },
           .pair (nodeRepr c) a)

/-- One API call answered WITHOUT the node table: every node is re-derived from the root
`w.master` along its recorded path.  This is `step` with `s.nodes[h]?` replaced by
`(paths[h]?).bind (derivePath P w.master)`. -/
def pureStep (P : Prims Pt) (w : Wallet) (gh : Ghost) : Op → Ghost × Out
  | .byPath path =>
    match Path.parse path with
    | none => (gh, .err)
    | some p =>
      match derivePath P w.master p.levels with
      | none => (gh, .err)
      | some n =>
        (if p.levels = [] then gh else { gh with paths := gh.paths ++ [p.levels] }, .node n)
  | .ckd h i =>
    match gh.paths[h]? with
    | none => (gh, .err)
    | some path =>
      match derivePath P w.master (path ++ [i]) with
      | none => (gh, .err)
      | some c => ({ gh with paths := gh.paths ++ [path ++ [i]] }, .node c)
  | .genChildren h a b =>
    match gh.paths[h]? with
    | none => (gh, .err)
    | some path =>
      match (List.range' a (b - a)).mapM (fun i => derivePath P w.master (path ++ [i])) with
      | none => (gh, .err)
      | some cs =>
        ({ gh with paths := gh.paths ++ (List.range' a (b - a)).map (fun i => path ++ [i]) },
         .nodes cs)
  | .derivePath h is =>
    match gh.paths[h]? with
    | none => (gh, .err)
    | some path =>
      match derivePath P w.master (path ++ is) with
      | none => (gh, .err)
      | some c => (if is = [] then gh else { gh with paths := gh.paths ++ [path ++ is] }, .node c)
  | .addr h k =>
    match (gh.paths[h]?).bind (derivePath P w.master) with
    | none => (gh, .err)
    | some nd => (gh, outOpt .text (addrOf P w.testnet k nd))
  | .extKeys h =>
    match (gh.paths[h]?).bind (derivePath P w.master) with
    | none => (gh, .err)
    | some nd => (gh, outOpt .json (nodeExtendedKeys P w nd))
  | .newGen h k =>
    match gh.paths[h]? with
    | none => (gh, .err)
    | some path => ({ gh with gens := gh.gens ++ [⟨path, k, false, 0, false⟩] }, .handle gh.gens.length)
  | .next g => pureAdvance P w gh g none
  | .send g k => pureAdvance P w gh g (some k)
  | .bip85 app param index =>
    (gh, if w.watchOnly then .err else outOpt .text (bip85Call P w.master app param index))
  | .report acct a b => (gh, outOpt .json (generate P w acct a b))
  | .wasabi => (gh, outOpt .json (Wallet.wasabi P w))
  | .rootKey => (gh, outOpt .text (rootKeyOut P w))

/-- a whole history answered without the node table -/
def pureRun (P : Prims Pt) (w : Wallet) : Ghost → List Op → Ghost × List Out
  | gh, [] => (gh, [])
  | gh, op :: ops =>
    ((pureRun P w (pureStep P w gh op).1 ops).1,
     (pureStep P w gh op).2 :: (pureRun P w (pureStep P w gh op).1 ops).2)

theorem ghost_paths (s : State) : (ghost s).paths = s.paths := rfl

theorem Inv.map_viewOf_append {P : Prims Pt} {w : Wallet} {s : State} (hinv : Inv P w s)
    (l : List (List Nat)) : s.gens.map (viewOf (s.paths ++ l)) = s.gens.map (viewOf s.paths) :=
  List.map_congr_left fun gen h => by
    rw [viewOf, viewOf, List.getElem?_append_left (hinv.len ▸ hinv.gens gen h)]

/-- one request to a generator object walking the node `nd`, on its own -/
def genStep (P : Prims Pt) (t : Bool) (nd : Node) (gen : Gen) (sent : Option Nat) : Gen × Out :=
  if gen.dead then (gen, .err)
  else if ¬ gen.started ∧ sent.isSome then (gen, .err)
  else
    match ckd P nd (advIndex gen.started gen.index sent) with
    | none => ({ gen with dead := true }, .err)
    | some c =>
      match addrOf P t gen.kind c with
      | none => ({ gen with dead := true }, .err)
      | some a =>
        ({ gen with started := true, index := advIndex gen.started gen.index sent },
         .pair (nodeRepr c) a)

theorem genStep_node (P : Prims Pt) (t : Bool) (nd : Node) (gen : Gen) (sent : Option Nat) :
    (genStep P t nd gen sent).1.node = gen.node := by
  unfold genStep
  repeat' split
  all_goals rfl

theorem genStep_eq {P : Prims Pt} {t : Bool} {nd c : Node} (gen : Gen) (sent : Option Nat)
    {a : List Char} (hd : gen.dead = false) (hs : gen.started = true ∨ sent = none)
    (hc : ckd P nd (advIndex gen.started gen.index sent) = some c)
    (ha : addrOf P t gen.kind c = some a) :
    genStep P t nd gen sent =
      ({ gen with started := true, index := advIndex gen.started gen.index sent },
       .pair (nodeRepr c) a) := by
  have hs' : ¬(¬gen.started = true ∧ sent.isSome = true) := by
    rintro ⟨h1, h2⟩
    rcases hs with h | rfl
    · exact h1 h
    · cases h2
  unfold genStep
  rw [if_neg (by rw [hd]; exact Bool.false_ne_true), if_neg hs']
  simp only [hc, ha]

/-- `next(gen)` / `gen.send(k)` on the shared objects: the generator answers as it does on its
own (`genStep`) against the node it walks and is stored back; the children counter of that node
grows when a child was derived. -/
theorem advance_of_gen {P : Prims Pt} {s : State} {g : Nat} {gen : Gen} {nd : Node} {cnt : Nat}
    (hg : s.gens[g]? = some gen) (hn : s.nodes[gen.node]? = some (nd, cnt)) (sent : Option Nat) :
    ∃ k, step.advance P s g sent =
      ({ s with nodes := bumpChildren s.nodes gen.node k,
                gens := s.gens.set g (genStep P s.wallet.testnet nd gen sent).1 },
       (genStep P s.wallet.testnet nd gen sent).2) := by
  have hs : (s, Out.err) = ({ s with nodes := bumpChildren s.nodes gen.node 0,
                                     gens := s.gens.set g gen }, Out.err) := by
    rw [bump_zero, set_of_getElem? hg]
  unfold genStep
  simp only [advance_eq, hg, hn]
  by_cases hd : gen.dead = true
  · simp only [if_pos hd]; exact ⟨0, hs⟩
  by_cases hst : ¬gen.started = true ∧ sent.isSome = true
  · simp only [if_neg hd, if_pos hst]; exact ⟨0, hs⟩
  simp only [if_neg hd, if_neg hst]
  cases ckd P nd (advIndex gen.started gen.index sent) with
  | none => exact ⟨0, by rw [bump_zero]⟩
  | some c => dsimp only; cases addrOf P s.wallet.testnet gen.kind c <;> exact ⟨1, rfl⟩

/-- The shape of the state after one call, as the branches of `step` show it: same wallet; the node table is the
old one with one children counter bumped, followed by new entries; the paths are extended.  It serves `step_frame`
only; the notion to use is `Extends`, which unlike `Shape` is transitive. -/
def Shape (s s' : State) : Prop :=
  s'.wallet = s.wallet ∧
  ∃ h k exN exP, s'.nodes = bumpChildren s.nodes h k ++ exN ∧ s'.paths = s.paths ++ exP

theorem Shape.bump (s : State) (h k : Nat) (G : List Gen) :
    Shape s { s with nodes := bumpChildren s.nodes h k, gens := G } :=
  ⟨rfl, h, k, [], [], (List.append_nil _).symm, (List.append_nil _).symm⟩

theorem Shape.gens (s : State) (G : List Gen) : Shape s { s with gens := G } := by
  simpa only [bump_zero] using Shape.bump s 0 0 G

/-- what survives any history: the wallet, the existing handles' node fields and paths -/
structure Extends (s s' : State) : Prop where
  wallet : s'.wallet = s.wallet
  nodes_len : s.nodes.length ≤ s'.nodes.length
  paths_len : s.paths.length ≤ s'.paths.length
  nodes_fst : ∀ h, h < s.nodes.length → (s'.nodes[h]?).map (·.1) = (s.nodes[h]?).map (·.1)
  paths : ∀ h, h < s.paths.length → s'.paths[h]? = s.paths[h]?

theorem Extends.refl (s : State) : Extends s s :=
  ⟨rfl, Nat.le_refl _, Nat.le_refl _, fun _ _ => rfl, fun _ _ => rfl⟩

theorem Extends.trans {s s' s'' : State} (h1 : Extends s s') (h2 : Extends s' s'') :
    Extends s s'' where
  wallet := h2.wallet.trans h1.wallet
  nodes_len := Nat.le_trans h1.nodes_len h2.nodes_len
  paths_len := Nat.le_trans h1.paths_len h2.paths_len
  nodes_fst := fun h hlt =>
    (h2.nodes_fst h (Nat.lt_of_lt_of_le hlt h1.nodes_len)).trans (h1.nodes_fst h hlt)
  paths := fun h hlt => (h2.paths h (Nat.lt_of_lt_of_le hlt h1.paths_len)).trans (h1.paths h hlt)

theorem Extends.nodes_stable {s s' : State} (he : Extends s s') {h : Nat} {nd : Node} {c : Nat}
    (hn : s.nodes[h]? = some (nd, c)) : ∃ c', s'.nodes[h]? = some (nd, c') :=
  map_fst_eq_some.mp
    ((he.nodes_fst h (List.getElem?_eq_some_iff.mp hn).1).trans (map_fst_eq_some.mpr ⟨c, hn⟩))

theorem Extends.viewOf {s s' : State} (he : Extends s s') {gen : Gen}
    (hlt : gen.node < s.paths.length) : viewOf s'.paths gen = viewOf s.paths gen := by
  unfold History.viewOf
  rw [he.paths _ hlt]

theorem Shape.extends {s s' : State} (hs : Shape s s') : Extends s s' := by
  obtain ⟨hw, h, k, exN, exP, hN, hP⟩ := hs
  refine ⟨hw, ?_, ?_, fun j hj => ?_, fun j hj => ?_⟩
  · rw [hN, List.length_append, bump_length]; exact Nat.le_add_right ..
  · rw [hP, List.length_append]; exact Nat.le_add_right ..
  · rw [hN, List.getElem?_append_left ((bump_length ..).symm ▸ hj), bump_getElem?_fst]
  · rw [hP, List.getElem?_append_left hj]

namespace Shape

variable {s s' : State}

theorem nodes_stable (hs : Shape s s') {h : Nat} {nd : Node} {c : Nat}
    (hn : s.nodes[h]? = some (nd, c)) : ∃ c', s'.nodes[h]? = some (nd, c') :=
  hs.extends.nodes_stable hn

theorem viewOf_stable (hs : Shape s s') {gen : Gen} (hlt : gen.node < s.paths.length) :
    viewOf s'.paths gen = viewOf s.paths gen :=
  hs.extends.viewOf hlt

end Shape

/-- which request (if any) an API call addresses to generator `g`:
`some none` for `next(g)`, `some (some k)` for `g.send(k)` -/
def reqOf (g : Nat) : Op → Option (Option Nat)
  | .next g' => if g' = g then some none else none
  | .send g' k => if g' = g then some (some k) else none
  | _ => none

theorem advance_frame (P : Prims Pt) (s : State) (g : Nat) (sent : Option Nat) :
    Shape s (step.advance P s g sent).1 ∧
      ∀ g', g ≠ g' → (step.advance P s g sent).1.gens[g']? = s.gens[g']? := by
  fun_cases step.advance P s g sent
  -- no child: the generator dies
  case case5 => exact ⟨.gens s _, fun _ h => List.getElem?_set_ne h⟩
  -- a child, with or without an address
  case case6 | case7 => exact ⟨.bump s _ _ _, fun _ h => List.getElem?_set_ne h⟩
  -- the state is returned as it was
  all_goals exact ⟨.gens s _, fun _ _ => rfl⟩

theorem step_frame (P : Prims Pt) (s : State) (op : Op) :
    Shape s (step P s op).1 ∧
      ∀ g, g < s.gens.length → reqOf g op = none → (step P s op).1.gens[g]? = s.gens[g]? := by
  -- cases in the order of the branches of `step`: `byPath` 1–3, `ckd` 4–6, `genChildren` 7–9, `derivePath` 10–13,
  -- `addr` 14–15, `extKeys` 16–17, `newGen` 18–19, `next` 20, `send` 21, then the four requests to the wallet alone
  fun_cases step P s op
  -- `byPath` with success: nothing new if the path has no levels
  case case3 =>
    refine ⟨?_, fun _ _ _ => by dsimp only; split <;> rfl⟩
    split
    · exact .gens s _
    · exact ⟨rfl, _, _, _, _, rfl, rfl⟩
  -- `ckd`, `derivePath`, `genChildren` with success
  case case5 | case12 => exact ⟨⟨rfl, _, _, _, _, rfl, rfl⟩, fun _ _ _ => rfl⟩
  case case8 path _ _ _ hcs s1 s2 =>
    rw [show s2 = _ from foldl_alloc_zip path (length_of_mapM_eq_some hcs) s1]
    exact ⟨⟨rfl, _, _, _, _, rfl, rfl⟩, fun _ _ _ => rfl⟩
  -- `newGen` with success
  case case18 => exact ⟨.gens s _, fun _ hg _ => List.getElem?_append_left hg⟩
  -- `next`, `send`
  case case20 g' | case21 g' _ =>
    refine ⟨(advance_frame P s g' _).1, fun g _ h => (advance_frame P s g' _).2 g fun e => ?_⟩
    simp [reqOf, e] at h
  -- the state is returned as it was
  all_goals exact ⟨.gens s _, fun _ _ _ => rfl⟩

theorem step_extends (P : Prims Pt) (s : State) (op : Op) : Extends s (step P s op).1 :=
  (step_frame P s op).1.extends

theorem run_nil (P : Prims Pt) (s : State) : run P s [] = (s, []) := rfl

theorem run_cons (P : Prims Pt) (s : State) (op : Op) (ops : List Op) :
    run P s (op :: ops) =
      ((run P (step P s op).1 ops).1, (step P s op).2 :: (run P (step P s op).1 ops).2) := rfl

theorem run_extends (P : Prims Pt) (s : State) (ops : List Op) : Extends s (run P s ops).1 := by
  induction ops generalizing s with
  | nil => exact .refl s
  | cons op ops ih => exact (step_extends P s op).trans (ih _)

theorem advance_sim {P : Prims Pt} {w : Wallet} {s : State} (hinv : Inv P w s) (g : Nat)
    (sent : Option Nat) :
    Inv P w (step.advance P s g sent).1 ∧
      pureAdvance P w (ghost s) g sent =
        (ghost (step.advance P s g sent).1, (step.advance P s g sent).2) := by
  unfold pureAdvance ghost
  rw [List.getElem?_map]
  cases hg : s.gens[g]? with
  | none => rw [advance_eq, hg]; exact ⟨hinv, rfl⟩
  | some gen =>
    have hlt := hinv.gens gen (List.mem_of_getElem? hg)
    obtain ⟨path, hp, hd⟩ := hinv.of_node (List.getElem?_eq_getElem hlt)
    obtain ⟨k, hk⟩ := advance_of_gen hg (List.getElem?_eq_getElem hlt) sent
    rw [hk]
    refine ⟨(hinv.bump _ k).set_gens fun x hx => ?_, ?_⟩
    · rw [bump_length]
      rcases List.mem_or_eq_of_mem_set hx with hx | rfl
      · exact hinv.gens x hx
      · rwa [genStep_node]
    · have hv : ∀ k st ix d, viewOf s.paths ⟨gen.node, k, st, ix, d⟩ = ⟨path, k, st, ix, d⟩ :=
        fun k st ix d => by rw [viewOf, hp]; rfl
      have hs : (s.gens.map (viewOf s.paths)).set g (viewOf s.paths gen) = _ :=
        set_of_getElem? (by rw [List.getElem?_map, hg]; rfl)
      unfold genStep
      simp only [Option.map_some, hv gen.kind, derivePath_snoc_of_some hd, hinv.wallet, List.map_set]
      split
      · rw [hs]
      · split
        · rw [hs]
        · cases ckd P _ (advIndex gen.started gen.index sent) with
          | none => simp only [hv]
          | some c => dsimp only; cases addrOf P w.testnet gen.kind c <;> simp only [hv]

theorem step_sim {P : Prims Pt} {w : Wallet} {s : State} (hinv : Inv P w s) (op : Op) :
    Inv P w (step P s op).1 ∧
      pureStep P w (ghost s) op = (ghost (step P s op).1, (step P s op).2) := by
  obtain rfl := hinv.wallet
  -- case numbers as in `step_frame`
  fun_cases step P s op
  -- `byPath` with success
  case case3 p hp n hn _ =>
    simp +zetaDelta only [pureStep, hp, hn]
    split
    · exact ⟨hinv, rfl⟩
    · exact ⟨(hinv.bump 0 _).alloc hn, by simp +zetaDelta only [ghost, alloc, hinv.map_viewOf_append]⟩
  -- `ckd`, `genChildren`, `derivePath` on a live handle: failure
  case case4 | case7 | case10 =>
    rename_i hp hn hc
    have hd := hinv.derive hn hp
    exact ⟨hinv, by simp only [pureStep, ghost_paths, hp, derivePath_snoc_of_some hd, derivePath_append_of_some hd,
      ← generateChildren.eq_1, hc]⟩
  -- success: the new entries are derivations from the root by `derivePath_snoc_of_some` / `derivePath_append_of_some`
  case case5 h i nd _ path hp hn c hc =>
    have hd := (derivePath_snoc_of_some (hinv.derive hn hp) i).trans hc
    exact ⟨(hinv.bump h 1).alloc hd,
      by simp only [pureStep, ghost, alloc, hp, hd, hinv.map_viewOf_append]⟩
  case case8 h a b nd _ path hp hn cs hcs s1 s2 =>
    have hd := hinv.derive hn hp
    have hF := mapM_eq_some_iff_forall₂.mp hcs
    rw [show s2 = _ from foldl_alloc_zip path hF.length_eq.symm s1]
    exact ⟨(hinv.bump h _).allocs (List.forall₂_map_left_iff.mpr
        (hF.imp fun i c hc => (derivePath_snoc_of_some hd i).trans hc)),
      by simp +zetaDelta only [pureStep, ghost, hp, derivePath_snoc_of_some hd, ← generateChildren.eq_1, hcs,
        hinv.map_viewOf_append]⟩
  case case11 h nd _ path hp hn c hc =>
    exact ⟨hinv, by simp only [pureStep, ghost_paths, hp, derivePath_append_of_some (hinv.derive hn hp), hc,
      if_true]⟩
  case case12 h is nd _ path hp hn c hc hne =>
    have hd := (derivePath_append_of_some (hinv.derive hn hp) is).trans hc
    exact ⟨(hinv.bump h 1).alloc hd,
      by simp only [pureStep, ghost, alloc, hp, hd, if_neg hne, hinv.map_viewOf_append]⟩
  -- a handle without node and path
  case case6 | case9 | case13 =>
    rename_i hx
    exact ⟨hinv, by simp only [pureStep, ghost_paths, hinv.paths_none hx]⟩
  -- `addr`, `extKeys`
  case case14 | case16 =>
    rename_i hn
    obtain ⟨path, hp, hd⟩ := hinv.of_node hn
    exact ⟨hinv, by simp +zetaDelta only [pureStep, ghost_paths, hp, Option.bind_some, hd]⟩
  case case15 | case17 =>
    rename_i hn
    have hp := hinv.paths_none fun _ _ _ h _ => by rw [hn] at h; cases h
    exact ⟨hinv, by simp only [pureStep, ghost_paths, hp, Option.bind_none]⟩
  -- `newGen`
  case case18 h k hlt =>
    refine ⟨hinv.set_gens fun x hx => ?_, ?_⟩
    · rcases List.mem_append.mp hx with hx | hx
      · exact hinv.gens x hx
      · cases List.mem_singleton.mp hx; exact hlt
    · simp only [pureStep, ghost, viewOf, List.getElem?_eq_getElem (hinv.len ▸ hlt), List.map_append,
        List.map_cons, List.map_nil, List.length_map, Option.getD_some]
  case case19 h k hge =>
    have hp := List.getElem?_eq_none (hinv.len ▸ Nat.le_of_not_lt hge)
    exact ⟨hinv, by simp only [pureStep, ghost_paths, hp]⟩
  -- `next`, `send`
  case case20 | case21 => exact advance_sim hinv _ _
  -- `byPath` without success (1, 2), and the requests to the wallet alone
  all_goals exact ⟨hinv, by simp +zetaDelta only [pureStep, *]⟩

theorem run_sim {P : Prims Pt} {w : Wallet} {s : State} (hinv : Inv P w s) (ops : List Op) :
    Inv P w (run P s ops).1 ∧ pureRun P w (ghost s) ops = (ghost (run P s ops).1, (run P s ops).2) := by
  induction ops generalizing s with
  | nil => exact ⟨hinv, rfl⟩
  | cons op ops ih =>
    obtain ⟨h1, h2⟩ := step_sim hinv op
    rw [run_cons, pureRun, h2, (ih h1).2]
    exact ⟨(ih h1).1, rfl⟩

/-- a generator object on its own, fed a list of requests -/
def genRun (P : Prims Pt) (t : Bool) (nd : Node) : Gen → List (Option Nat) → List Out
  | _, [] => []
  | gen, r :: rs => (genStep P t nd gen r).2 :: genRun P t nd (genStep P t nd gen r).1 rs

/-- the outputs of those calls of a history that are addressed to generator `g` -/
def outsFor (g : Nat) : List Op → List Out → List Out
  | op :: ops, o :: os => if (reqOf g op).isSome then o :: outsFor g ops os else outsFor g ops os
  | _, _ => []

theorem step_req {P : Prims Pt} {s : State} {g : Nat} {op : Op} {r : Option Nat}
    (h : reqOf g op = some r) : step P s op = step.advance P s g r := by
  cases op <;> simp only [reqOf, Option.ite_none_right_eq_some, Option.some.injEq, reduceCtorEq] at h
  all_goals obtain ⟨rfl, rfl⟩ := h; rfl

/-- the indexes a started generator at `ix` derives for a list of requests -/
def idxSeq (ix : Nat) : List (Option Nat) → List Nat
  | [] => []
  | r :: rs => (ix + sendIncr r) :: idxSeq (ix + sendIncr r) rs

theorem idxSeq_next (ix n : Nat) : idxSeq ix (List.replicate n none) = List.range' (ix + 1) n := by
  induction n generalizing ix with
  | zero => rfl
  | succ n ih => rw [List.replicate_succ, idxSeq, List.range'_succ, ih]; rfl

/-- indexes derived by a fresh generator: 0 for the first request, then `idxSeq 0` -/
def freshIdxs : List (Option Nat) → List Nat
  | [] => []
  | _ :: rs => 0 :: idxSeq 0 rs

theorem freshIdxs_next (n : Nat) : freshIdxs (List.replicate n none) = List.range n := by
  cases n with
  | zero => rfl
  | succ n =>
    rw [List.replicate_succ, freshIdxs, idxSeq_next, List.range_eq_range', List.range'_succ]

/-- an output is the (path string, address) pair of the child of `nd` at index `i` -/
def IsChildOut (P : Prims Pt) (t : Bool) (nd : Node) (k : AddrKind) (i : Nat) (o : Out) : Prop :=
  ∃ c a, ckd P nd i = some c ∧ addrOf P t k c = some a ∧ o = .pair (nodeRepr c) a

theorem genStep_ok {P : Prims Pt} {t : Bool} {nd : Node} {gen : Gen} {sent : Option Nat}
    (hne : (genStep P t nd gen sent).2 ≠ .err) :
    IsChildOut P t nd gen.kind (advIndex gen.started gen.index sent) (genStep P t nd gen sent).2 ∧
    (genStep P t nd gen sent).1 =
      ⟨gen.node, gen.kind, true, advIndex gen.started gen.index sent, false⟩ ∧
    (gen.started = true ∨ sent = none) := by
  revert hne
  fun_cases genStep P t nd gen sent
  case case5 hd hs c hc a ha =>
    refine fun _ => ⟨⟨c, a, hc, ha, rfl⟩, by rw [Bool.eq_false_iff.mpr hd], ?_⟩
    cases sent with
    | none => exact .inr rfl
    | some k => exact .inl (Decidable.of_not_not fun h => hs ⟨h, rfl⟩)
  all_goals exact fun hne => absurd rfl hne

theorem genRun_started {P : Prims Pt} {t : Bool} {nd : Node} {gen : Gen} (hst : gen.started = true)
    (rs : List (Option Nat)) (hall : ∀ o ∈ genRun P t nd gen rs, o ≠ .err) :
    List.Forall₂ (IsChildOut P t nd gen.kind) (idxSeq gen.index rs) (genRun P t nd gen rs) := by
  induction rs generalizing gen with
  | nil => exact .nil
  | cons r rs ih =>
    rw [genRun, List.forall_mem_cons] at hall
    obtain ⟨h1, h2, _⟩ := genStep_ok hall.1
    rw [advIndex, if_pos hst] at h1 h2
    have := ih (gen := (genStep P t nd gen r).1) (by rw [h2]) hall.2
    exact .cons h1 (h2 ▸ this)

theorem genRun_fresh {P : Prims Pt} {t : Bool} {nd : Node} {h : Nat} {k : AddrKind}
    (rs : List (Option Nat))
    (hall : ∀ o ∈ genRun P t nd ⟨h, k, false, 0, false⟩ rs, o ≠ .err) :
    (∀ j, rs.head? ≠ some (some j)) ∧
    List.Forall₂ (IsChildOut P t nd k) (freshIdxs rs) (genRun P t nd ⟨h, k, false, 0, false⟩ rs) := by
  cases rs with
  | nil => exact ⟨nofun, .nil⟩
  | cons r rs =>
    rw [genRun, List.forall_mem_cons] at hall
    obtain ⟨h1, h2, h3⟩ := genStep_ok hall.1
    obtain rfl : r = none := h3.resolve_left nofun
    have := genRun_started (gen := (genStep P t nd ⟨h, k, false, 0, false⟩ none).1) (by rw [h2]) rs hall.2
    exact ⟨nofun, .cons h1 (h2 ▸ this)⟩

/-- Calls whose answer involves no generator and no fresh handle number: everything except
`newGen` / `next` / `send`; a node argument must be an existing handle. -/
def Stateless (s : State) : Op → Prop
  | .ckd h _ => h < s.nodes.length
  | .genChildren h _ _ => h < s.nodes.length
  | .derivePath h _ => h < s.nodes.length
  | .addr h _ => h < s.nodes.length
  | .extKeys h => h < s.nodes.length
  | .byPath _ => True
  | .bip85 _ _ _ => True
  | .report _ _ _ => True
  | .wasabi => True
  | .rootKey => True
  | .newGen _ _ => False
  | .next _ => False
  | .send _ _ => False

theorem Stateless.mono {s s' : State} (he : Extends s s') {o : Op} (ho : Stateless s o) :
    Stateless s' o := by
  cases o
  case ckd | genChildren | derivePath | addr | extKeys => exact Nat.lt_of_lt_of_le ho he.nodes_len
  all_goals exact ho

theorem pureStep_out_congr (P : Prims Pt) (w : Wallet) {gh gh' : Ghost} {s : State} {o : Op}
    (ho : Stateless s o) (hh : ∀ h, h < s.nodes.length → gh'.paths[h]? = gh.paths[h]?) :
    (pureStep P w gh' o).2 = (pureStep P w gh o).2 := by
  cases o
  case newGen | next | send => exact ho.elim
  case ckd h _ | genChildren h _ _ | derivePath h _ | addr h _ | extKeys h =>
    simp only [pureStep, hh h ho]
    repeat' split
    all_goals rfl
  all_goals
    simp only [pureStep]
    repeat' split
    all_goals rfl

theorem out_independent_ext {P : Prims Pt} {w : Wallet} {s s' : State} (hinv : Inv P w s)
    (hinv' : Inv P w s') (he : Extends s s') {o : Op} (ho : Stateless s o) :
    (step P s' o).2 = (step P s o).2 := by
  rw [← congrArg Prod.snd (step_sim hinv o).2, ← congrArg Prod.snd (step_sim hinv' o).2]
  exact pureStep_out_congr P w ho fun h hlt => he.paths h (hinv.len ▸ hlt)

theorem gen_out_independent_ext {P : Prims Pt} {w : Wallet} {s s' : State} (hinv : Inv P w s)
    (he : Extends s s') {g : Nat} (hg : g < s.gens.length) (hg' : s'.gens[g]? = s.gens[g]?)
    (sent : Option Nat) :
    (step.advance P s' g sent).2 = (step.advance P s g sent).2 := by
  have hgen := List.getElem?_eq_getElem hg
  have hn := List.getElem?_eq_getElem (hinv.gens _ (List.getElem_mem hg))
  obtain ⟨cnt', hn'⟩ := he.nodes_stable hn
  obtain ⟨_, hk⟩ := advance_of_gen hgen hn sent
  obtain ⟨_, hk'⟩ := advance_of_gen (hg'.trans hgen) hn' sent
  rw [hk, hk', he.wallet]

theorem run_gens_untouched (P : Prims Pt) {g : Nat} (ops : List Op) {s : State}
    (hall : ∀ op ∈ ops, reqOf g op = none) (hg : g < s.gens.length) :
    (run P s ops).1.gens[g]? = s.gens[g]? := by
  induction ops generalizing s with
  | nil => rfl
  | cons op ops ih =>
    rw [List.forall_mem_cons] at hall
    have h1 := (step_frame P s op).2 g hg hall.1
    have hg' := (List.getElem?_eq_some_iff.mp (h1.trans (List.getElem?_eq_getElem hg))).1
    exact (ih hall.2 hg').trans h1

end BtcHd.History
