/-
Concrete toy primitives and a toy wallet on which child derivation SUCCEEDS, used only as
non-vacuity witnesses for the C13 theorems (a state satisfying `Inv` with several nodes and a
live generator).  Nothing about secp256k1 or HMAC-SHA512 is claimed here.
-/
import BtcHd.Lemmas.History
import BtcHd.Lemmas.ToyCurve

namespace BtcHd.History
open BtcHd Bip32 Wallet

-- for the `decide` in `toyS_eval`
deriving instance DecidableEq for Gen

/-- toy primitives (the Z/5 "curve" of `Lemmas/ToyCurve.lean`) with an HMAC whose left half
is the scalar 1, so that `ckd` of a node with scalar `k < 4` succeeds with scalar `k + 1`
(field for field `Toy.prims1` of `Lemmas/ToyGroup.lean`, which this file does not import) -/
def toyP : Prims Nat :=
  { Toy.prims with hmac512 := fun _ _ => List.replicate 31 0 ++ [1] ++ List.replicate 32 9 }

/-- a toy wallet whose master scalar is 1 -/
def toyW : Wallet :=
  { master := { isPrv := true, key := List.replicate 31 0 ++ [1], chainCode := List.replicate 32 9,
                depth := 0, index := 0, testnet := false, hasParent := false, parentFp := none,
                path := [], parsedVersion := none },
    testnet := false, mnemonic := none, password := none }

/-- a toy history: two children by `ckd`, a lookup by path string, a generator on handle 1 -/
def toyOps : List Op :=
  [.ckd 0 0, .byPath ['m', '/', '1', '\''], .newGen 1 .p2pkh, .next 0, .ckd 1 7, .next 0, .send 0 3]

def toyS : State := (run toyP (init toyW) toyOps).1

theorem toyS_inv : Inv toyP toyW toyS := by
  -- unfolded by `rw`: asked whether `toyS` and `(run …).1` agree, the kernel evaluates the run
  rw [toyS]
  exact (run_sim (inv_init toyP toyW) toyOps).1

/-- the toy state apart from its node objects, by one evaluation of the toy history -/
theorem toyS_eval : toyS.paths = [[], [0], [2 ^ 31 + 1], [0, 7]] ∧ toyS.nodes.length = 4 ∧
    toyS.gens = [⟨1, .p2pkh, true, 4, false⟩] := by decide +kernel

theorem toyS_paths : toyS.paths = [[], [0], [2 ^ 31 + 1], [0, 7]] := toyS_eval.1

theorem toyS_nodes_length : toyS.nodes.length = 4 := toyS_eval.2.1

theorem toyS_gen : toyS.gens[0]? = some ⟨1, .p2pkh, true, 4, false⟩ := by rw [toyS_eval.2.2]; rfl

/-- the node behind handle 1 of the toy state: the child 0 of the master -/
def toyNd1 : Node := (ckd toyP toyW.master 0).getD toyW.master

/-- by the invariant, the node behind handle 1 is the derivation along its recorded path `[0]` -/
theorem toyS_node1 : ∃ cnt, toyS.nodes[1]? = some (toyNd1, cnt) := by
  obtain ⟨nd, cnt, hn, hd⟩ := toyS_inv.of_path (h := 1) (path := [0]) (by rw [toyS_paths]; rfl)
  obtain ⟨c, hc, hcn⟩ := Option.bind_eq_some_iff.mp hd
  cases hcn
  exact ⟨cnt, by rw [hn, toyNd1, hc]; rfl⟩

theorem toy_child (i : Nat) (hi : i = 5 ∨ i = 6) :
    ∃ c a, ckd toyP toyNd1 i = some c ∧ addrOf toyP toyS.wallet.testnet .p2pkh c = some a := by
  have key : ∀ i ∈ [5, 6], ((ckd toyP toyNd1 i).bind (addrOf toyP false .p2pkh)).isSome = true := by
    decide +kernel
  rw [toyS_inv.wallet]
  obtain ⟨a, ha⟩ := Option.isSome_iff_exists.mp (key i (by simpa using hi))
  obtain ⟨c, hc, ha⟩ := Option.bind_eq_some_iff.mp ha
  exact ⟨c, a, hc, ha⟩

theorem toyS_gens_length : toyS.gens.length = 1 := by rw [toyS_eval.2.2]; rfl

/-- `· = .err` as a Boolean test, so that "no request fails" can be decided on a concrete history (`toy_gen_ok`) -/
def isErr : Out → Bool
  | .err => true
  | _ => false

theorem ne_err_of_all {os : List Out} (h : os.all (fun o => !isErr o) = true) :
    ∀ o ∈ os, o ≠ .err := by
  intro o ho he
  have := List.all_eq_true.mp h o ho
  rw [he] at this
  cases this

/-- a second toy history, run after creating generator 1 on handle 1: three requests to the new
generator interleaved with a `ckd` on the same node and a request to generator 0 -/
def toyOps2 : List Op := [.next 1, .ckd 1 2, .next 1, .next 0, .send 1 3]

theorem toy_gen_ok :
    (outsFor 1 toyOps2 (run toyP (step toyP toyS (.newGen 1 .p2wpkh)).1 toyOps2).2).all
      (fun o => !isErr o) = true := by decide +kernel

end BtcHd.History
