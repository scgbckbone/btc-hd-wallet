/-
Helper lemmas for C16 (network tags): the version tables and the version bytes of an
extended-key string.
-/
import BtcHd.Lemmas.XKey

namespace BtcHd.Wallet
open BtcHd Keys Bip32 XKey Path

variable {Pt : Type}

def versionTable (t : Bool) : List (Nat × Nat × Nat) :=
  if t then Generated.versionsTest else Generated.versionsMain

def versionInts (t : Bool) : List Nat := (versionTable t).map (·.2.2)

theorem versionInts_parse : ∀ t : Bool, ∀ v ∈ versionInts t,
    ∃ ver, Version.parse v = some ver ∧ ver.testnet = t := by decide

theorem versionInts_disjoint : ∀ v ∈ versionInts true, v ∉ versionInts false := by decide

theorem toInt_mem {ver : Version} {v : Nat} (h : ver.toInt = some v) :
    v ∈ versionInts ver.testnet := by
  unfold Version.toInt Path.lookup at h
  obtain ⟨e, he, rfl⟩ := Option.map_eq_some_iff.mp h
  exact List.mem_map_of_mem (List.mem_of_find?_eq_some he)

theorem nodeVersionInt_mem {w : Wallet} {nd : Node} {kt v : Nat}
    (h : nodeVersionInt w nd kt = some v) : v ∈ versionInts w.testnet := by
  unfold nodeVersionInt at h
  obtain ⟨p, _, h⟩ := Option.bind_eq_some_iff.mp h
  exact toInt_mem h

theorem extendedPublicKey_version {P : Prims Pt} {nd : Node} {ver : Option Nat} {s : List Char}
    (h : extendedPublicKey P nd ver = some s) :
    ∃ ser, s = Base58.encodeCheck P.hash256 ser ∧
      beToNat (ser.take 4) = ver.getD (pubVersion nd) := by
  obtain ⟨ser, hser, rfl⟩ := Option.map_eq_some_iff.mp h
  obtain ⟨K, _, hk⟩ := serializePublic_eq_some.mp hser
  exact ⟨ser, rfl, serializeWith_version hk⟩

theorem extendedPrivateKey_version {P : Prims Pt} {nd : Node} {ver : Option Nat} {s : List Char}
    (h : extendedPrivateKey P nd ver = some s) :
    ∃ ser, s = Base58.encodeCheck P.hash256 ser ∧
      beToNat (ser.take 4) = ver.getD (prvVersion nd) := by
  obtain ⟨ser, hser, rfl⟩ := Option.map_eq_some_iff.mp h
  obtain ⟨_, k, _, hk⟩ := serializePrivate_eq_some.mp hser
  exact ⟨ser, rfl, serializeWith_version hk⟩

end BtcHd.Wallet
