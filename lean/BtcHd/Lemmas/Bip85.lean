/-
BIP85 (C12).  The five path templates of `bip85.py` are instances of one shape (`template`); what `str.format` and
`Bip32Path.parse` make of it is proved once (`fmt_template`, `parse_fmt_template`).  Each application is then brought
into the form "guard, entropy at the level list, post-processing" (`bip39Mnemonic_eq`, `wif_eq`, `xprv_eq`, `hex_eq`,
`pwd_eq`), from which `Props/C12.lean` reads off acceptance, rejection and result.
-/
import BtcHd.Lemmas.Path
import BtcHd.Lemmas.Bip32
import BtcHd.Model.Bip85

namespace BtcHd.Bip85
open BtcHd Text Path Bip32 Keys

variable {Pt : Type}

theorem intToDec_natCast (n : Nat) : intToDec (n : Int) = natToDec n := rfl

theorem intToDec_negSucc (n : Nat) : intToDec (Int.negSucc n) = '-' :: natToDec (n + 1) := rfl

theorem intToDec_ne_nil (a : Int) : intToDec a ≠ [] := by
  cases a with
  | ofNat n => exact (isDec_natToDec n).1
  | negSucc n => simp [intToDec]

theorem intToDec_neg {a : Int} (h : a < 0) : ∃ n : Nat, a = -(n + 1 : Nat) ∧ intToDec a = '-' :: natToDec (n + 1) := by
  cases a with
  | ofNat n => rw [Int.ofNat_eq_natCast] at h; omega
  | negSucc n => exact ⟨n, by rw [Int.negSucc_eq]; omega, rfl⟩

theorem slash_not_mem_intToDec (a : Int) : '/' ∉ intToDec a := by
  have hn (n : Nat) : '/' ∉ natToDec n := (isDec_natToDec n).not_mem (by decide)
  cases a with
  | ofNat n => exact hn n
  | negSucc n => simpa [intToDec_negSucc] using hn (n + 1)

/-- the Python ints `a` for which `{a}'` is a hardened path component -/
def InRange (a : Int) : Prop := 0 ≤ a ∧ a < 2 ^ 31

instance (a : Int) : Decidable (InRange a) := by unfold InRange; infer_instance

theorem inRange_natCast {n : Nat} : InRange (n : Int) ↔ n < 2 ^ 31 := by
  unfold InRange; omega

theorem convertHardened_intToDec (a : Int) :
    convertHardened (intToDec a ++ ['\'']) =
      if InRange a then some (a.toNat + 2 ^ 31) else none := by
  rw [convertHardened_marked (Or.inl rfl)]
  cases a with
  | ofNat n =>
    rw [Int.ofNat_eq_natCast, intToDec_natCast, parseDec_natToDec, Option.bind_some, Int.toNat_natCast]
    exact if_congr inRange_natCast.symm rfl rfl
  | negSucc n =>
    -- `-` is not a digit, so `int()` never sees the string
    have : parseDec (intToDec (Int.negSucc n)) = none :=
      Option.eq_none_iff_forall_ne_some.mpr fun v hv =>
        absurd ((parseDec_eq_some_iff.mp hv).1.2 '-' (by simp [intToDec_negSucc])) (by decide)
    rw [this, Option.bind_none, if_neg fun h => by have := h.1; omega]

theorem convertHardened_natToDec {n : Nat} (h : n < 2 ^ 31) :
    convertHardened (natToDec n ++ ['\'']) = some (n + 2 ^ 31) := by
  have := convertHardened_intToDec (n : Int)
  rwa [intToDec_natCast, if_pos (inRange_natCast.mpr h), Int.toNat_natCast] at this

theorem mapM_none_of_mem {α β : Type} (f : α → Option β) {l : List α} {c : α} (hc : c ∈ l)
    (h : f c = none) : l.mapM f = none :=
  Basics.mapM_eq_none_iff.mpr ⟨c, hc, h⟩

theorem fmt_append {pre : List Char} (h : '{' ∉ pre) (rest : List Char) (as : List Int) :
    fmt (pre ++ rest) as = pre ++ fmt rest as := by
  induction pre with
  | nil => rfl
  | cons c pre ih =>
    rw [List.mem_cons, not_or] at h
    rw [List.cons_append, fmt.eq_2 _ _ _ fun _ _ _ _ hc _ => h.1 hc.symm, ih h.2]
    rfl

/-- `m/c₁/…/cₖ/{}'/…/{}'` with `n` holes: the shape of the five templates of `bip85.py` -/
def template (fixed : List (List Char)) (n : Nat) : List Char :=
  join ['/'] (['m'] :: (fixed ++ List.replicate n ['{', '}', '\'']))

theorem fmt_template {fixed : List (List Char)} (h : ∀ c ∈ fixed, '{' ∉ c) (args : List Int) :
    fmt (template fixed args.length) args =
      join ['/'] (['m'] :: (fixed ++ args.map fun a => intToDec a ++ ['\''])) := by
  unfold template
  -- the text in front of the holes, `m/c₁/…/cₖ`, has no `{` and is copied; then one hole per argument
  rw [join_cons, join_cons, List.flatMap_append, List.flatMap_append,
    ← List.append_assoc, ← List.append_assoc, fmt_append]
  · congr 1
    induction args with
    | nil => rfl
    | cons a as ih =>
      rw [List.map_cons, List.flatMap_cons, ← ih, List.append_assoc, List.append_assoc]
      -- `/{}'…` against `a :: as`: the slash is copied, the hole filled, and the quote copied
      exact congrArg (fun s => '/' :: (intToDec a ++ s)) (fmt_append (pre := ['\'']) (by decide) _ as)
  · simp only [List.mem_append, List.mem_flatMap, List.mem_singleton, not_or, not_exists, not_and]
    exact ⟨by decide, fun c hc => ⟨by decide, h c hc⟩⟩

theorem parse_fmt_template {fixed : List (List Char)} {lv : List Nat}
    (hconv : fixed.map convertHardened = lv.map some) (args : List Int)
    (hlen : fixed.length + args.length ≤ 5) :
    Path.parse (fmt (template fixed args.length) args) =
      if ∀ a ∈ args, InRange a then some ⟨lv ++ args.map fun a => a.toNat + 2 ^ 31, true⟩
      else none := by
  rw [fmt_template (not_mem_of_map_convertHardened hconv (by decide))]
  have hlen' : (fixed ++ args.map fun a => intToDec a ++ ['\'']).length ≤ 5 := by simpa using hlen
  by_cases h : ∀ a ∈ args, InRange a
  · rw [if_pos h]
    refine parse_join_of_convert (Or.inl rfl) hlen' ?_
    rw [List.map_append, List.map_append, hconv, List.map_map, List.map_map]
    congr 1
    refine List.map_congr_left fun a ha => ?_
    rw [Function.comp_apply, convertHardened_intToDec, if_pos (h a ha)]; rfl
  · rw [if_neg h]
    obtain ⟨a, ha, hna⟩ : ∃ a ∈ args, ¬ InRange a := by simpa using h
    rw [parse_join (by decide) fun c hc => ?_]
    · refine parseParts_eq_none (c := intToDec a ++ ['\'']) ?_ (by simp)
        (by rw [convertHardened_intToDec, if_neg hna]; nofun)
      rw [List.take_of_length_le hlen']
      exact List.mem_append_right _ (List.mem_map_of_mem ha)
    · rcases List.mem_append.mp hc with hc | hc
      · exact not_mem_of_map_convertHardened hconv (by decide) c hc
      · obtain ⟨b, _, rfl⟩ := List.mem_map.mp hc
        simpa using slash_not_mem_intToDec b

theorem tplMnemonic_eq :
    Generated.bip85TplMnemonic = template ["83696968'".toList, "39'".toList, "0'".toList] 2 := by
  repeat rw [String.toList_ofList]
  decide

theorem tplWif_eq : Generated.bip85TplWif = template ["83696968'".toList, "2'".toList] 1 := by
  repeat rw [String.toList_ofList]
  decide

theorem tplXprv_eq : Generated.bip85TplXprv = template ["83696968'".toList, "32'".toList] 1 := by
  repeat rw [String.toList_ofList]
  decide

theorem tplHex_eq : Generated.bip85TplHex = template ["83696968'".toList, "128169'".toList] 2 := by
  repeat rw [String.toList_ofList]
  decide

theorem tplPwd_eq : Generated.bip85TplPwd = template ["83696968'".toList, "707764'".toList] 2 := by
  repeat rw [String.toList_ofList]
  decide

/-- `m/83696968'/39'/0'/{wc}'/{i}'` -/
def levelsMnemonic (wc i : Nat) : List Nat :=
  [83696968 + 2 ^ 31, 39 + 2 ^ 31, 0 + 2 ^ 31, wc + 2 ^ 31, i + 2 ^ 31]
/-- `m/83696968'/2'/{i}'` -/
def levelsWif (i : Nat) : List Nat := [83696968 + 2 ^ 31, 2 + 2 ^ 31, i + 2 ^ 31]
/-- `m/83696968'/32'/{i}'` -/
def levelsXprv (i : Nat) : List Nat := [83696968 + 2 ^ 31, 32 + 2 ^ 31, i + 2 ^ 31]
/-- `m/83696968'/128169'/{nb}'/{i}'` -/
def levelsHex (nb i : Nat) : List Nat :=
  [83696968 + 2 ^ 31, 128169 + 2 ^ 31, nb + 2 ^ 31, i + 2 ^ 31]
/-- `m/83696968'/707764'/{len}'/{i}'` -/
def levelsPwd (len i : Nat) : List Nat :=
  [83696968 + 2 ^ 31, 707764 + 2 ^ 31, len + 2 ^ 31, i + 2 ^ 31]

theorem parse_fmt_mnemonic (a b : Int) :
    Path.parse (fmt Generated.bip85TplMnemonic [a, b]) =
      if InRange a ∧ InRange b then some ⟨levelsMnemonic a.toNat b.toNat, true⟩ else none := by
  rw [tplMnemonic_eq]
  exact (parse_fmt_template (lv := [83696968 + 2 ^ 31, 39 + 2 ^ 31, 0 + 2 ^ 31]) (by decide +kernel)
    [a, b] (by simp)).trans (if_congr (by simp) rfl rfl)

theorem parse_fmt_wif (a : Int) :
    Path.parse (fmt Generated.bip85TplWif [a]) =
      if InRange a then some ⟨levelsWif a.toNat, true⟩ else none := by
  rw [tplWif_eq]
  exact (parse_fmt_template (lv := [83696968 + 2 ^ 31, 2 + 2 ^ 31]) (by decide +kernel)
    [a] (by simp)).trans (if_congr (by simp) rfl rfl)

theorem parse_fmt_xprv (a : Int) :
    Path.parse (fmt Generated.bip85TplXprv [a]) =
      if InRange a then some ⟨levelsXprv a.toNat, true⟩ else none := by
  rw [tplXprv_eq]
  exact (parse_fmt_template (lv := [83696968 + 2 ^ 31, 32 + 2 ^ 31]) (by decide +kernel)
    [a] (by simp)).trans (if_congr (by simp) rfl rfl)

theorem parse_fmt_hex (a b : Int) :
    Path.parse (fmt Generated.bip85TplHex [a, b]) =
      if InRange a ∧ InRange b then some ⟨levelsHex a.toNat b.toNat, true⟩ else none := by
  rw [tplHex_eq]
  exact (parse_fmt_template (lv := [83696968 + 2 ^ 31, 128169 + 2 ^ 31]) (by decide +kernel)
    [a, b] (by simp)).trans (if_congr (by simp) rfl rfl)

theorem parse_fmt_pwd (a b : Int) :
    Path.parse (fmt Generated.bip85TplPwd [a, b]) =
      if InRange a ∧ InRange b then some ⟨levelsPwd a.toNat b.toNat, true⟩ else none := by
  rw [tplPwd_eq]
  exact (parse_fmt_template (lv := [83696968 + 2 ^ 31, 707764 + 2 ^ 31]) (by decide +kernel)
    [a, b] (by simp)).trans (if_congr (by simp) rfl rfl)

/-- HMAC-SHA512 keyed `bip-entropy-from-k` over the 32-byte private key of the node reached
from `m` by the given levels (`none` when a derivation step or the key is invalid) -/
def entropyAt (P : Prims Pt) (m : Node) (levels : List Nat) : Option Bytes :=
  (derivePath P m levels).bind fun node =>
    (prvKey P node).map fun k => P.hmac512 Generated.bip85Key (privBytes k)

theorem entropy_eq (P : Prims Pt) (m : Node) (path : List Char) :
    entropy P m path = (Path.parse path).bind fun p => entropyAt P m p.levels := rfl

theorem entropy_of_parse (P : Prims Pt) (m : Node) {path : List Char} {c : Prop} [Decidable c]
    {lv : List Nat} (h : Path.parse path = if c then some ⟨lv, true⟩ else none) :
    entropy P m path = if c then entropyAt P m lv else none := by
  rw [entropy_eq, h]; split <;> rfl

theorem entropy_hex (P : Prims Pt) (m : Node) (a b : Int) :
    entropy P m (fmt Generated.bip85TplHex [a, b]) =
      if InRange a ∧ InRange b then entropyAt P m (levelsHex a.toNat b.toNat) else none :=
  entropy_of_parse P m (parse_fmt_hex a b)

theorem entropyAt_length {P : Prims Pt} (hhmac : ∀ k d, (P.hmac512 k d).length = 64) {m : Node}
    {lv : List Nat} {e : Bytes} (he : entropyAt P m lv = some e) : e.length = 64 := by
  obtain ⟨_, _, he⟩ := Option.bind_eq_some_iff.mp he
  obtain ⟨_, _, rfl⟩ := Option.map_eq_some_iff.mp he
  exact hhmac _ _

/-- a node derived from a private node by at least one step stores its scalar as exactly
32 bytes, so the HMAC message `bytes(node.private_key)` is the node's `key` field -/
theorem derived_key (P : Prims Pt) (hn : P.curve.n ≤ 2 ^ 256) {m node : Node} (hm : m.isPrv = true)
    (is : List Nat) (i : Nat) (hi : i < 2 ^ 32) (h : derivePath P m (is ++ [i]) = some node) :
    ∃ k, prvKey P node = some k ∧ 1 ≤ k ∧ k < P.curve.n ∧ node.key = beFixed 32 k := by
  rw [derivePath_append] at h
  obtain ⟨par, hp, hc⟩ := Option.bind_eq_some_iff.mp h
  rw [derivePath_singleton, ckd_eq_ckdPrv P ((derivePath_fields hp).1.trans hm)] at hc
  -- `ckdPrv` begins by binding the parent's scalar
  obtain ⟨kp, hk, _⟩ := Option.bind_eq_some_iff.mp hc
  obtain ⟨ki, IR, fp, h1, h2, _, rfl⟩ := ckdPrv_eq_some hk hi hn hc
  exact ⟨ki, mkChild_prvKey P par ki IR i fp h1 h2 hn, h1, h2, mkChild_key _ _ _ _ _⟩

/-- the source's `(wc - 1) * 11 // 8 + 1` is `wc * 4 / 3` (16/20/24/28/32) on the five word counts -/
theorem byteCount_eq (wc : Int) :
    byteCountFromWordCount wc =
      if 0 ≤ wc ∧ wc.toNat ∈ [12, 15, 18, 21, 24] then some (wc.toNat * 4 / 3) else none := by
  -- the source tests membership first, then the sign
  refine if_ctx_congr and_comm (fun h => ?_) fun _ => rfl
  have := h.2
  simp only [List.mem_cons, List.not_mem_nil, or_false] at this
  rcases this with e | e | e | e | e <;> rw [e]

theorem bip39Mnemonic_eq (P : Prims Pt) (m : Node) (wc i : Int) :
    bip39Mnemonic P m wc i =
      if (0 ≤ wc ∧ wc.toNat ∈ [12, 15, 18, 21, 24]) ∧ InRange i then
        (entropyAt P m (levelsMnemonic wc.toNat i.toNat)).bind fun e =>
          Bip39.mnemonicFromEntropy P.sha256 (toHex (e.take (wc.toNat * 4 / 3)))
      else none := by
  unfold bip39Mnemonic
  rw [entropy_of_parse P m (parse_fmt_mnemonic wc i), byteCount_eq]
  by_cases hw : 0 ≤ wc ∧ wc.toNat ∈ [12, 15, 18, 21, 24]
  · have := (by decide : ∀ x ∈ [12, 15, 18, 21, 24], x < 2 ^ 31) _ hw.2
    have : InRange wc := ⟨hw.1, by omega⟩
    simp only [hw, this, and_self, true_and, if_true, Option.bind_some]
    split <;> rfl
  · rw [if_neg hw, if_neg (hw ∘ And.left)]
    exact Option.bind_eq_none_iff.mpr fun _ _ => rfl

theorem correctKey_iff (P : Prims Pt) (kb : Bytes) :
    correctKey P kb = true ↔ 1 ≤ beToNat kb ∧ beToNat kb < P.curve.n := by
  unfold correctKey
  simp only [ne_eq, decide_eq_true_eq]
  omega

/-- the part of `wif` after the entropy: check, build the key, print it -/
def wifBody (P : Prims Pt) (e : Bytes) : Option (List Char) :=
  if correctKey P (e.take 32) then
    (mkPriv P.curve (e.take 32)).map fun k => Keys.wif P k true false
  else none

theorem wif_eq (P : Prims Pt) (m : Node) (i : Int) :
    wif P m i = if InRange i then (entropyAt P m (levelsWif i.toNat)).bind (wifBody P) else none := by
  unfold wif
  rw [entropy_of_parse P m (parse_fmt_wif i)]
  split <;> rfl

theorem wifBody_eq (P : Prims Pt) (e : Bytes) (hlen : 32 ≤ e.length) :
    wifBody P e =
      if 1 ≤ beToNat (e.take 32) ∧ beToNat (e.take 32) < P.curve.n then
        some (Keys.wif P (beToNat (e.take 32)) true false)
      else none :=
  if_ctx_congr (correctKey_iff P _)
    (fun h => by rw [mkPriv_eq_some.mpr ⟨by rw [List.length_take]; omega, h.1, h.2, rfl⟩]; rfl)
    fun _ => rfl

/-- the node `PrvKeyNode(key=right, chain_code=left)` built by `xprv` -/
def xprvNode (left right : Bytes) : Node :=
  { isPrv := true, key := right, chainCode := left, depth := 0, index := 0, testnet := false,
    hasParent := false, parentFp := none, path := [], parsedVersion := none }

/-- the part of `xprv` after the entropy -/
def xprvBody (P : Prims Pt) (e : Bytes) : Option (List Char) :=
  if correctKey P (e.drop 32) then
    extendedPrivateKey P (xprvNode (e.take 32) (e.drop 32)) none
  else none

theorem xprv_eq (P : Prims Pt) (m : Node) (i : Int) :
    xprv P m i =
      if InRange i then (entropyAt P m (levelsXprv i.toNat)).bind (xprvBody P) else none := by
  unfold xprv
  rw [entropy_of_parse P m (parse_fmt_xprv i)]
  split <;> rfl

theorem extendedPrivateKey_xprvNode (P : Prims Pt) (left right : Bytes) (hr : right.length = 32)
    (h1 : 1 ≤ beToNat right) (h2 : beToNat right < P.curve.n) :
    extendedPrivateKey P (xprvNode left right) none =
      some (Base58.encodeCheck P.hash256
        ([0x04, 0x88, 0xAD, 0xE4] ++ [0] ++ [0, 0, 0, 0] ++ [0, 0, 0, 0] ++ left ++ ([0] ++ right))) := by
  have hk : prvKey P (xprvNode left right) = some (beToNat right) := by
    unfold prvKey
    rw [if_neg (by rw [show (xprvNode left right).key = right from rfl]; omega)]
    exact mkPriv_eq_some.mpr ⟨hr, h1, h2, rfl⟩
  have hv : toBytesBE 4 Generated.prvMain = some [0x04, 0x88, 0xAD, 0xE4] := by decide +kernel
  have h0 : toBytesBE 1 0 = some [0] ∧ toBytesBE 4 0 = some [0, 0, 0, 0] := by decide +kernel
  unfold extendedPrivateKey serializePrivate
  rw [if_pos (show (xprvNode left right).isPrv = true from rfl), hk, Option.bind_some,
    show privBytes (beToNat right) = right from BeFixed.beFixed_beToNat hr]
  unfold serializeWith
  rw [show (none : Option Nat).getD (prvVersion (xprvNode left right)) = Generated.prvMain from rfl,
    hv, show (xprvNode left right).depth = 0 from rfl, show (xprvNode left right).index = 0 from rfl,
    h0.1, h0.2]
  rfl

theorem xprvBody_eq (P : Prims Pt) (e : Bytes) (hlen : e.length = 64) :
    xprvBody P e =
      if 1 ≤ beToNat (e.drop 32) ∧ beToNat (e.drop 32) < P.curve.n then
        some (Base58.encodeCheck P.hash256
          ([0x04, 0x88, 0xAD, 0xE4] ++ [0] ++ [0, 0, 0, 0] ++ [0, 0, 0, 0] ++ e.take 32
            ++ ([0] ++ e.drop 32)))
      else none :=
  if_ctx_congr (correctKey_iff P _)
    (fun h => extendedPrivateKey_xprvNode P _ _ (by rw [List.length_drop]; omega) h.1 h.2) fun _ => rfl

/-- `p`: the application's own check of its parameter; `q`: the parameter is in `[0, 2^31)`; `r`: the index
is.  A check `p` that implies `q` absorbs it. -/
theorem map_ite_guard {α β : Type} {p q r : Prop} [Decidable p] [Decidable q] [Decidable r]
    (hpq : p → q) (x : Option α) (f : α → β) :
    (if p then (if q ∧ r then x else none).map f else none) = if p ∧ r then x.map f else none := by
  by_cases hp : p <;> by_cases hr : r <;> simp [hp, hr, hpq]

theorem hex_eq (P : Prims Pt) (m : Node) (nb i : Int) :
    hex P m nb i =
      if (16 ≤ nb ∧ nb ≤ 64) ∧ InRange i then
        (entropyAt P m (levelsHex nb.toNat i.toNat)).map fun e => toHex (e.take nb.toNat)
      else none := by
  unfold hex
  rw [entropy_hex]
  exact map_ite_guard (p := 16 ≤ nb ∧ nb ≤ 64) (fun h => ⟨by omega, by omega⟩) _ _

theorem pwd_eq (P : Prims Pt) (m : Node) (len i : Int) :
    pwd P m len i =
      if (20 ≤ len ∧ len ≤ 86) ∧ InRange i then
        (entropyAt P m (levelsPwd len.toNat i.toNat)).map fun e => (base64 e).take len.toNat
      else none := by
  unfold pwd
  rw [entropy_of_parse P m (parse_fmt_pwd len i)]
  exact map_ite_guard (p := 20 ≤ len ∧ len ≤ 86) (fun h => ⟨by omega, by omega⟩) _ _

theorem b64Alphabet_spec : b64Alphabet.length = 64 ∧
    ∀ c ∈ b64Alphabet, c.isAlphanum = true ∨ c = '+' ∨ c = '/' := by
  unfold b64Alphabet
  rw [String.toList_ofList]
  decide +kernel

theorem b64Char_mem {x : Nat} (h : x < 64) : b64Char x ∈ b64Alphabet :=
  Basics.getD_mem (b64Alphabet_spec.1 ▸ h) _

/-- `b64encode`: `⌈4n/3⌉` alphabet characters, then `=` up to a multiple of four -/
theorem base64_eq (e : Bytes) :
    ∃ body, base64 e = body ++ List.replicate ((3 - e.length % 3) % 3) '=' ∧
      body.length = (4 * e.length + 2) / 3 ∧ ∀ c ∈ body, c ∈ b64Alphabet := by
  have hmod (x : Nat) : b64Char (x % 64) ∈ b64Alphabet := b64Char_mem (Nat.mod_lt _ (by decide))
  -- the first sextet of at most 24 bits
  have hdiv {n : Nat} (h : n < 2 ^ 24) : b64Char (n / 262144) ∈ b64Alphabet :=
    b64Char_mem (Nat.div_lt_of_lt_mul h)
  fun_induction base64 e with
  | case1 a b c rest n ih =>
    obtain ⟨body, h1, h2, h3⟩ := ih
    have hn : n < 2 ^ 24 := by have := a.toNat_lt; have := b.toNat_lt; have := c.toNat_lt; omega
    refine ⟨b64Char (n / 262144) :: b64Char (n / 4096 % 64) :: b64Char (n / 64 % 64) ::
      b64Char (n % 64) :: body, ?_, ?_, ?_⟩
    · rw [h1, show (a :: b :: c :: rest).length % 3 = rest.length % 3 by
        simp only [List.length_cons]; omega]
      rfl
    · simp only [List.length_cons, h2]; omega
    · simp only [List.forall_mem_cons]
      exact ⟨hdiv hn, hmod _, hmod _, hmod _, h3⟩
  | case2 a b n =>
    have hn : n < 2 ^ 24 := by have := a.toNat_lt; have := b.toNat_lt; omega
    refine ⟨[b64Char (n / 262144), b64Char (n / 4096 % 64), b64Char (n / 64 % 64)], rfl, by simp, ?_⟩
    simp only [List.forall_mem_cons]
    exact ⟨hdiv hn, hmod _, hmod _, by simp⟩
  | case3 a n =>
    have hn : n < 2 ^ 24 := by have := a.toNat_lt; omega
    refine ⟨[b64Char (n / 262144), b64Char (n / 4096 % 64)], rfl, by simp, ?_⟩
    simp only [List.forall_mem_cons]
    exact ⟨hdiv hn, hmod _, by simp⟩
  | case4 => exact ⟨[], rfl, rfl, by simp⟩

end BtcHd.Bip85
