/-
For C19: the vocabulary of its statements (`Cmd.WF`, `Wire`, `Wires`), then lemmas about
`readExact`, varints, and the per-command / loop structure of the script parser.  Core Lean only.
-/
import BtcHd.Model.Script
import BtcHd.Lemmas.BeFixed

namespace BtcHd.Script
open BtcHd Varint

/-- A command of a round-trippable script: an opcode byte that is not a push
prefix (bytes 1..77 introduce data), or a data element of 1..520 bytes. -/
def Cmd.WF : Cmd → Prop
  | .op b => b = 0 ∨ (78 ≤ b ∧ b ≤ 255)
  | .data d => 1 ≤ d.length ∧ d.length ≤ 520

instance : DecidablePred Cmd.WF := fun c => by
  cases c <;> unfold Cmd.WF <;> infer_instance

/-- `Wire c chunk`: the byte string `chunk` is one of the wire forms that the
parser reads as the single command `c`. -/
inductive Wire : Cmd → Bytes → Prop
  /-- an opcode byte: `0` or `78..255` -/
  | op (b : UInt8) (h : ¬ (1 ≤ b.toNat ∧ b.toNat ≤ 77)) : Wire (.op b.toNat) [b]
  /-- a bare length byte `1..75` followed by that many bytes -/
  | push (b : UInt8) (d : Bytes) (h1 : 1 ≤ b.toNat) (h2 : b.toNat ≤ 75) (hd : d.length = b.toNat) :
      Wire (.data d) (b :: d)
  /-- `OP_PUSHDATA1`, one length byte, the data -/
  | pushdata1 (l : UInt8) (d : Bytes) (hd : d.length = l.toNat) : Wire (.data d) (76 :: l :: d)
  /-- `OP_PUSHDATA2`, two little-endian length bytes, the data -/
  | pushdata2 (lo hi : UInt8) (d : Bytes) (hd : d.length = lo.toNat + 256 * hi.toNat) :
      Wire (.data d) (77 :: lo :: hi :: d)

/-- `Wires cs body`: `body` is a concatenation of wire forms of the commands `cs`, in order. -/
inductive Wires : List Cmd → Bytes → Prop
  | nil : Wires [] []
  | cons {c : Cmd} {chunk : Bytes} {cs : List Cmd} {body : Bytes} :
      Wire c chunk → Wires cs body → Wires (c :: cs) (chunk ++ body)

end BtcHd.Script

namespace BtcHd.ScriptLemmas
open BtcHd Varint Script BeFixed

theorem leFixed_one (n : Nat) : leFixed 1 n = [UInt8.ofNat n] :=
  congrArg (· :: []) UInt8.ofNat_mod_size

theorem leFixed_two (n : Nat) : leFixed 2 n = [UInt8.ofNat (n % 256), UInt8.ofNat (n / 256)] :=
  congrArg (_ :: · :: []) UInt8.ofNat_mod_size

theorem readExact_eq_some_iff {s a r : Bytes} {n : Nat} :
    readExact s n = some (a, r) ↔ s = a ++ r ∧ a.length = n := by
  unfold readExact
  constructor
  · intro h
    split at h
    · cases h
      exact ⟨(List.take_append_drop n s).symm, List.length_take_of_le ‹_›⟩
    · cases h
  · rintro ⟨rfl, rfl⟩
    simp

/-- the number of little-endian bytes that a first varint byte of value `b` announces -/
def width (b : Nat) : Nat := if b = 0xfd then 2 else if b = 0xfe then 4 else if b = 0xff then 8 else 0

theorem width_of_lt {b : Nat} (h : b < 0xfd) : width b = 0 := by
  rw [width, if_neg (by omega), if_neg (by omega), if_neg (by omega)]

theorem readVarint_cons (i : UInt8) (s : Bytes) :
    readVarint (i :: s) = (readExact s (width i.toNat)).map fun (b, r) =>
      (if width i.toNat = 0 then i.toNat else leToNat b, r) := by
  by_cases h1 : i = 0xfd
  · subst h1; rfl
  by_cases h2 : i = 0xfe
  · subst h2; rfl
  by_cases h3 : i = 0xff
  · subst h3; rfl
  rw [readVarint, if_neg h1, if_neg h2, if_neg h3]
  simp only [← UInt8.toNat_inj, UInt8.reduceToNat] at h1 h2 h3
  rw [width_of_lt (by have := i.toNat_lt; omega)]
  rfl

theorem readVarint_eq_some_iff {s r : Bytes} {n : Nat} :
    readVarint s = some (n, r) ↔ ∃ i b, s = i :: (b ++ r) ∧ b.length = width i.toNat ∧
      n = if width i.toNat = 0 then i.toNat else leToNat b := by
  cases s with
  | nil => simp [readVarint]
  | cons i s =>
    simp only [readVarint_cons, Option.map_eq_some_iff, Prod.exists, readExact_eq_some_iff,
      Prod.mk.injEq, List.cons.injEq]
    constructor
    · rintro ⟨b, r', ⟨rfl, hb⟩, rfl, rfl⟩
      exact ⟨i, b, ⟨rfl, rfl⟩, hb, rfl⟩
    · rintro ⟨i', b, ⟨rfl, rfl⟩, hb, rfl⟩
      exact ⟨b, r, ⟨rfl, hb⟩, rfl, rfl⟩

theorem readVarint_append {s r : Bytes} {n : Nat} (h : readVarint s = some (n, r)) (x : Bytes) :
    readVarint (s ++ x) = some (n, r ++ x) := by
  obtain ⟨i, b, rfl, hb, hn⟩ := readVarint_eq_some_iff.mp h
  exact readVarint_eq_some_iff.mpr ⟨i, b, by simp, hb, hn⟩

theorem readVarint_split {s r : Bytes} {n : Nat} (h : readVarint s = some (n, r)) :
    ∃ hdr, s = hdr ++ r ∧ readVarint hdr = some (n, []) := by
  obtain ⟨i, b, rfl, hb, hn⟩ := readVarint_eq_some_iff.mp h
  exact ⟨i :: b, rfl, readVarint_eq_some_iff.mpr ⟨i, b, by simp, hb, hn⟩⟩

theorem readVarint_truncated {hdr pre : Bytes} {n : Nat} (h : readVarint hdr = some (n, []))
    (hp : pre <+: hdr) (hne : pre ≠ hdr) : readVarint pre = none := by
  obtain ⟨t, rfl⟩ := hp
  cases hpre : readVarint pre with
  | none => rfl
  | some x =>
    rw [readVarint_append hpre t] at h
    simp only [Option.some.injEq, Prod.mk.injEq, List.append_eq_nil_iff] at h
    rw [h.2.2, List.append_nil] at hne
    exact absurd rfl hne

theorem readVarint_value_lt {s : Bytes} {n : Nat} (h : readVarint s = some (n, [])) :
    (s.length = 1 ∧ n < 0xfd) ∨ (s.length = 3 ∧ n < 2 ^ 16) ∨ (s.length = 5 ∧ n < 2 ^ 32) ∨
      s.length = 9 := by
  obtain ⟨i, b, rfl, hb, rfl⟩ := readVarint_eq_some_iff.mp h
  have hv := leToNat_lt b
  have := i.toNat_lt
  rw [List.length_cons, List.length_append, List.length_nil, ← hb]
  unfold width at hb
  -- the four values of `width` are the four length classes; `hv` bounds the value in each
  (repeat' split at hb) <;> rw [hb] at hv ⊢ <;>
    simp only [Nat.reduceEqDiff, reduceIte, false_and, true_and, false_or] <;> omega

theorem encodeVarint_cases (n : Nat) :
    (n < 0xfd ∧ encodeVarint n = some [UInt8.ofNat n]) ∨
    (0xfd ≤ n ∧ n < 0x10000 ∧ encodeVarint n = some (0xfd :: leFixed 2 n)) ∨
    (0x10000 ≤ n ∧ n < 0x100000000 ∧ encodeVarint n = some (0xfe :: leFixed 4 n)) ∨
    (0x100000000 ≤ n ∧ n < 0x10000000000000000 ∧ encodeVarint n = some (0xff :: leFixed 8 n)) ∨
    (0x10000000000000000 ≤ n ∧ encodeVarint n = none) := by
  unfold encodeVarint
  by_cases h1 : n < 0xfd
  · exact .inl ⟨h1, by rw [if_pos h1, leFixed_one]⟩
  by_cases h2 : n < 0x10000
  · exact .inr (.inl ⟨by omega, h2, by rw [if_neg h1, if_pos h2]⟩)
  by_cases h3 : n < 0x100000000
  · exact .inr (.inr (.inl ⟨by omega, h3, by rw [if_neg h1, if_neg h2, if_pos h3]⟩))
  by_cases h4 : n < 0x10000000000000000
  · exact .inr (.inr (.inr (.inl ⟨by omega, h4, by rw [if_neg h1, if_neg h2, if_neg h3, if_pos h4]⟩)))
  · exact .inr (.inr (.inr (.inr ⟨by omega, by rw [if_neg h1, if_neg h2, if_neg h3, if_neg h4]⟩)))

theorem readVarint_leFixed {m : UInt8} {k n : Nat} (hk : width m.toNat = k) (h0 : k ≠ 0)
    (hn : n < 256 ^ k) : readVarint (m :: leFixed k n) = some (n, []) :=
  readVarint_eq_some_iff.mpr ⟨m, leFixed k n, by simp, by rw [leFixed_length, hk],
    by rw [hk, if_neg h0, leToNat_leFixed hn]⟩

theorem readVarint_encode {n : Nat} {enc : Bytes} (h : encodeVarint n = some enc) :
    readVarint enc = some (n, []) := by
  rcases encodeVarint_cases n with ⟨h1, e⟩ | ⟨_, h2, e⟩ | ⟨_, h3, e⟩ | ⟨_, h4, e⟩ | ⟨_, e⟩ <;>
    rw [e] at h <;> cases h
  · have e : (UInt8.ofNat n).toNat = n := UInt8.toNat_ofNat_of_lt' (Nat.lt_trans h1 (by decide))
    have w := width_of_lt h1
    exact readVarint_eq_some_iff.mpr ⟨_, [], rfl, by rw [e, w]; rfl, by rw [e, w]; rfl⟩
  · exact readVarint_leFixed rfl (by decide) (by omega)
  · exact readVarint_leFixed rfl (by decide) (by omega)
  · exact readVarint_leFixed rfl (by decide) (by omega)

theorem readVarint_encodeVarint {n : Nat} {enc : Bytes} (h : encodeVarint n = some enc)
    (rest : Bytes) : readVarint (enc ++ rest) = some (n, rest) :=
  readVarint_append (readVarint_encode h) rest

theorem serCmd_op {b : Nat} (h : b < 256) : serCmd (.op b) = some [UInt8.ofNat b] := by
  rw [serCmd, toBytesLE_eq_some h, leFixed_one]

theorem serCmd_op_large {b : Nat} (h : 256 ≤ b) : serCmd (.op b) = none :=
  if_neg (Nat.not_lt.mpr h)

theorem serCmd_data_small {d : Bytes} (h : d.length ≤ 75) :
    serCmd (.data d) = some (UInt8.ofNat d.length :: d) := by
  simp only [serCmd]
  rw [if_pos h, leFixed_one]; rfl

theorem serCmd_data_mid {d : Bytes} (h1 : 76 ≤ d.length) (h2 : d.length ≤ 255) :
    serCmd (.data d) = some (76 :: UInt8.ofNat d.length :: d) := by
  simp only [serCmd]
  rw [if_neg (by omega), if_pos (by omega), leFixed_one]; rfl

theorem serCmd_data_big {d : Bytes} (h1 : 256 ≤ d.length) (h2 : d.length ≤ 520) :
    serCmd (.data d) =
      some (77 :: UInt8.ofNat (d.length % 256) :: UInt8.ofNat (d.length / 256) :: d) := by
  simp only [serCmd]
  rw [if_neg (by omega), if_neg (by omega), if_pos (by omega), leFixed_two]; rfl

theorem serCmd_data_huge {d : Bytes} (h : 520 < d.length) : serCmd (.data d) = none := by
  simp only [serCmd]
  rw [if_neg (by omega), if_neg (by omega), if_neg (by omega)]

theorem serCmd_wf {c : Cmd} (hwf : c.WF) : ∃ a, serCmd c = some a ∧ Wire c a := by
  have toNat : ∀ {n : Nat}, n < 256 → (UInt8.ofNat n).toNat = n := UInt8.toNat_ofNat_of_lt'
  cases c with
  | op b =>
    have hb : b < 256 := by rcases hwf with rfl | ⟨_, h⟩ <;> omega
    have := Wire.op (UInt8.ofNat b) (by rw [toNat hb]; rcases hwf with rfl | ⟨_, _⟩ <;> omega)
    rw [toNat hb] at this
    exact ⟨_, serCmd_op hb, this⟩
  | data d =>
    obtain ⟨h1, h520⟩ := hwf
    by_cases hs : d.length ≤ 75
    · exact ⟨_, serCmd_data_small hs, .push _ d (by rw [toNat (by omega)]; exact h1)
        (by rw [toNat (by omega)]; exact hs) (toNat (by omega)).symm⟩
    by_cases hm : d.length ≤ 255
    · exact ⟨_, serCmd_data_mid (by omega) hm, .pushdata1 _ d (toNat (by omega)).symm⟩
    · exact ⟨_, serCmd_data_big (by omega) h520, .pushdata2 _ _ d (by
        rw [toNat (Nat.mod_lt _ (by decide)), toNat (n := d.length / 256) (by omega)]; omega)⟩

theorem serCmd_length_le {c : Cmd} {a : Bytes} (h : serCmd c = some a) : a.length ≤ 523 := by
  cases c with
  | op b =>
    simp only [serCmd, toBytesLE] at h
    split at h <;> cases h
    simp [leFixed_length]
  | data d =>
    simp only [serCmd] at h
    -- each arm of `serCmd` puts 1, 2 or 3 bytes in front of at most 520
    (repeat' split at h) <;> cases h <;>
      simp only [List.length_append, List.length_cons, List.length_nil, leFixed_length] <;> omega

/-- the two opcodes come as a table so that `OP_PUSHDATA1` and `OP_PUSHDATA2` are one statement
(`rfl` proves the equation `e` for each) -/
theorem parseOne_pushdata {op : UInt8} {k : Nat} (hk : (op, k) ∈ [((76 : UInt8), 1), (77, 2)])
    {s r : Bytes} {c : Cmd} {cnt : Nat} :
    parseOne (op :: s) = some (c, cnt, r) ↔ ∃ l d, s = l ++ (d ++ r) ∧ l.length = k ∧
      d.length = leToNat l ∧ c = .data d ∧ cnt = 1 + d.length + k := by
  have e : parseOne (op :: s) = (readExact s k).bind fun (l, r1) =>
      (readExact r1 (leToNat l)).map fun (d, r) => (.data d, 1 + leToNat l + k, r) := by
    simp only [List.mem_cons, List.not_mem_nil, or_false] at hk
    rcases hk with ⟨rfl, rfl⟩ | ⟨rfl, rfl⟩ <;> rfl
  simp only [e, Option.bind_eq_some_iff, Option.map_eq_some_iff, Prod.exists,
    readExact_eq_some_iff, Prod.mk.injEq]
  constructor
  · rintro ⟨l, _, ⟨rfl, hl⟩, d, _, ⟨rfl, hd⟩, rfl, rfl, rfl⟩
    exact ⟨l, d, rfl, hl, hd, rfl, by rw [hd]⟩
  · rintro ⟨l, d, rfl, hl, hd, rfl, rfl⟩
    exact ⟨l, _, ⟨rfl, hl⟩, d, r, ⟨rfl, hd⟩, rfl, by rw [hd], rfl⟩

theorem wire_length_pos {c : Cmd} {chunk : Bytes} (h : Wire c chunk) : 1 ≤ chunk.length := by
  cases h <;> simp

theorem parseOne_eq_some_iff {s r : Bytes} {c : Cmd} {k : Nat} :
    parseOne s = some (c, k, r) ↔ ∃ chunk, s = chunk ++ r ∧ chunk.length = k ∧ Wire c chunk := by
  constructor
  · intro h
    cases s with
    | nil => cases h
    | cons cur rest =>
      by_cases h75 : 1 ≤ cur.toNat ∧ cur.toNat ≤ 75
      · simp only [parseOne, if_pos h75, Option.map_eq_some_iff, Prod.exists,
          readExact_eq_some_iff] at h
        obtain ⟨d, _, ⟨rfl, hd⟩, rfl, rfl, rfl⟩ := h
        exact ⟨cur :: d, rfl, by rw [List.length_cons, hd, Nat.add_comm], .push cur d h75.1 h75.2 hd⟩
      by_cases h76 : cur.toNat = 76
      · cases (UInt8.toNat_inj (b := 76)).mp h76
        obtain ⟨l, d, rfl, hl, hd, rfl, rfl⟩ := (parseOne_pushdata (k := 1) (by simp)).mp h
        obtain ⟨x, rfl⟩ := List.length_eq_one_iff.mp hl
        exact ⟨76 :: x :: d, rfl, by simp only [List.length_cons]; omega, .pushdata1 x d hd⟩
      by_cases h77 : cur.toNat = 77
      · cases (UInt8.toNat_inj (b := 77)).mp h77
        obtain ⟨l, d, rfl, hl, hd, rfl, rfl⟩ := (parseOne_pushdata (k := 2) (by simp)).mp h
        obtain ⟨x, l, rfl⟩ := List.exists_cons_of_length_eq_add_one hl
        obtain ⟨y, rfl⟩ := List.length_eq_one_iff.mp (Nat.succ.inj hl)
        exact ⟨77 :: x :: y :: d, rfl, by simp only [List.length_cons]; omega, .pushdata2 x y d hd⟩
      · simp only [parseOne, if_neg h75, if_neg h76, if_neg h77] at h
        obtain ⟨rfl, rfl, rfl⟩ := h
        exact ⟨[cur], rfl, rfl, .op cur (by omega)⟩
  · rintro ⟨chunk, rfl, rfl, hw⟩
    cases hw with
    | op b hb =>
      simp only [List.cons_append, parseOne]
      rw [if_neg (by omega), if_neg (by omega), if_neg (by omega)]; rfl
    | push b d h1 h2 hd =>
      simp only [List.cons_append, parseOne]
      rw [if_pos ⟨h1, h2⟩, readExact_eq_some_iff.mpr ⟨rfl, hd⟩, ← hd, List.length_cons, Nat.add_comm]
      rfl
    | pushdata1 l d hd =>
      exact (parseOne_pushdata (by simp)).mpr ⟨[l], d, rfl, rfl, hd, rfl,
        by simp only [List.length_cons, List.length_nil]; omega⟩
    | pushdata2 lo hi d hd =>
      exact (parseOne_pushdata (by simp)).mpr ⟨[lo, hi], d, rfl, rfl, hd, rfl,
        by simp only [List.length_cons, List.length_nil]; omega⟩

theorem parseLoop_wires {cs : List Cmd} {body : Bytes} (h : Wires cs body) (fuel count : Nat)
    (rest : Bytes) (hf : body.length ≤ fuel) :
    parseLoop fuel (count + body.length) count (body ++ rest)
      = some (cs, count + body.length, rest) := by
  induction h generalizing fuel count with
  | nil => cases fuel <;> simp [parseLoop]
  | @cons c chunk cs body hw _ ih =>
    have hpos := wire_length_pos hw
    rw [List.length_append] at hf
    obtain ⟨f, rfl⟩ : ∃ f, fuel = f + 1 := ⟨fuel - 1, by omega⟩
    rw [parseLoop, if_pos (by rw [List.length_append]; omega), List.append_assoc,
      parseOne_eq_some_iff.mpr ⟨chunk, rfl, rfl, hw⟩]
    simp only [Option.bind_some]
    rw [List.length_append, ← Nat.add_assoc, ih f _ (by omega)]
    rfl

theorem parseLoop_some {fuel len count cnt : Nat} {s r : Bytes} {cs : List Cmd}
    (h : parseLoop fuel len count s = some (cs, cnt, r)) :
    ∃ body, Wires cs body ∧ s = body ++ r ∧ cnt = count + body.length := by
  induction fuel generalizing count s cs with
  | zero =>
    cases h
    exact ⟨[], .nil, rfl, rfl⟩
  | succ f ih =>
    rw [parseLoop] at h
    split at h
    · obtain ⟨⟨c, k, r1⟩, hone, h⟩ := Option.bind_eq_some_iff.mp h
      obtain ⟨⟨cs', cnt', r'⟩, hloop, heq⟩ := Option.map_eq_some_iff.mp h
      cases heq
      obtain ⟨chunk, rfl, rfl, hw⟩ := parseOne_eq_some_iff.mp hone
      obtain ⟨body, hws, rfl, rfl⟩ := ih hloop
      exact ⟨chunk ++ body, .cons hw hws, by rw [List.append_assoc],
        by rw [List.length_append, Nat.add_assoc]⟩
    · cases h
      exact ⟨[], .nil, rfl, rfl⟩

/-- each round consumes at least one byte, so the loop ends by itself before the fuel does -/
theorem parseLoop_fuel_succ {fuel len count : Nat} {s : Bytes} (hf : s.length < fuel) :
    parseLoop (fuel + 1) len count s = parseLoop fuel len count s := by
  induction fuel generalizing count s with
  | zero => omega
  | succ f ih =>
    rw [parseLoop, parseLoop]
    split
    · cases hone : parseOne s with
      | none => rfl
      | some x =>
        obtain ⟨c, k, r⟩ := x
        obtain ⟨chunk, rfl, rfl, hw⟩ := parseOne_eq_some_iff.mp hone
        have := wire_length_pos hw
        simp only [Option.bind_some]
        rw [ih (by simp only [List.length_append] at hf; omega)]
    · rfl

theorem parseLoop_fuel_irrelevant (len count : Nat) (s : Bytes) (extra : Nat) :
    parseLoop (s.length + 1 + extra) len count s = parseLoop (s.length + 1) len count s := by
  induction extra with
  | zero => rfl
  | succ e ih => rw [← Nat.add_assoc, parseLoop_fuel_succ (by omega), ih]

theorem rawSerialize_append (a b : List Cmd) :
    rawSerialize (a ++ b) = (rawSerialize a).bind fun x => (rawSerialize b).map (x ++ ·) := by
  induction a with
  | nil => cases h : rawSerialize b <;> simp [rawSerialize, h]
  | cons c a ih =>
    simp only [List.cons_append, rawSerialize, ih]
    cases serCmd c <;> cases rawSerialize a <;> cases rawSerialize b <;> simp

theorem rawSerialize_wf {cs : List Cmd} (hwf : ∀ c ∈ cs, c.WF) :
    ∃ raw, rawSerialize cs = some raw ∧ Wires cs raw := by
  induction cs with
  | nil => exact ⟨[], rfl, .nil⟩
  | cons c cs ih =>
    obtain ⟨a, ha, hw⟩ := serCmd_wf (hwf c List.mem_cons_self)
    obtain ⟨raw, hr, hws⟩ := ih fun c' hc' => hwf c' (List.mem_cons_of_mem _ hc')
    exact ⟨a ++ raw, by simp [rawSerialize, ha, hr], .cons hw hws⟩

theorem rawSerialize_length_le {cs : List Cmd} {raw : Bytes} (h : rawSerialize cs = some raw) :
    raw.length ≤ 523 * cs.length := by
  induction cs generalizing raw with
  | nil => cases h; exact Nat.le_refl 0
  | cons c cs ih =>
    simp only [rawSerialize, Option.bind_eq_some_iff, Option.map_eq_some_iff] at h
    obtain ⟨a, ha, raw', hr, rfl⟩ := h
    have := serCmd_length_le ha
    have := ih hr
    simp only [List.length_append, List.length_cons]; omega

theorem serialize_some {cs : List Cmd} {ser : Bytes} (h : serialize cs = some ser) :
    ∃ hdr raw, ser = hdr ++ raw ∧ readVarint hdr = some (raw.length, []) ∧
      rawSerialize cs = some raw := by
  simp only [serialize, Option.bind_eq_some_iff, Option.map_eq_some_iff] at h
  obtain ⟨raw, hr, enc, he, rfl⟩ := h
  exact ⟨enc, raw, rfl, readVarint_encode he, hr⟩

theorem serialize_short {cs : List Cmd} {raw : Bytes} (hr : rawSerialize cs = some raw) {n : Nat}
    (hn : raw.length = n) (hl : n < 0xfd) : serialize cs = some (UInt8.ofNat n :: raw) := by
  rw [serialize, hr, Option.bind_some, hn, encodeVarint, if_pos hl, leFixed_one]
  rfl

theorem parse_wires {hdr body : Bytes} {cs : List Cmd}
    (hh : readVarint hdr = some (body.length, [])) (hw : Wires cs body) (rest : Bytes) :
    parse (hdr ++ body ++ rest) = some (cs, rest) := by
  have hloop := parseLoop_wires hw ((body ++ rest).length + 1) 0 rest (by
    rw [List.length_append]; omega)
  rw [Nat.zero_add] at hloop
  rw [parse, List.append_assoc, readVarint_append hh]
  simp only [Option.bind_some, List.nil_append]
  rw [hloop]
  simp

theorem parse_some {bs rest : Bytes} {cs : List Cmd} (h : parse bs = some (cs, rest)) :
    ∃ hdr body, bs = hdr ++ body ++ rest ∧ readVarint hdr = some (body.length, []) ∧
      Wires cs body := by
  obtain ⟨⟨n, s⟩, hv, h1⟩ := Option.bind_eq_some_iff.mp h
  obtain ⟨⟨cs', cnt, r⟩, hloop, h2⟩ := Option.bind_eq_some_iff.mp h1
  obtain ⟨body, hw, rfl, rfl⟩ := parseLoop_some hloop
  obtain ⟨hdr, rfl, hh⟩ := readVarint_split hv
  dsimp only at h2
  split at h2 <;> cases h2
  rename_i hn
  exact ⟨hdr, body, (List.append_assoc ..).symm, by rwa [← Nat.zero_add body.length, hn], hw⟩

/-- reading the header of the whole string gives, by `readVarint_append`, what reading the header
of an accepted prefix gives, so the prefix already holds the whole body -/
theorem parse_truncated {hdr body pre : Bytes} (hh : readVarint hdr = some (body.length, []))
    (hp : pre <+: hdr ++ body) (hne : pre ≠ hdr ++ body) : parse pre = none := by
  obtain ⟨t, ht⟩ := hp
  cases hparse : parse pre with
  | none => rfl
  | some x =>
    obtain ⟨hdr', body', rfl, hh', _⟩ := parse_some hparse
    have := readVarint_append hh' (body' ++ x.2 ++ t)
    rw [← List.append_assoc, ← List.append_assoc, ht, readVarint_append hh body] at this
    simp only [Option.some.injEq, Prod.mk.injEq] at this
    have hl := congrArg List.length this.2
    simp only [List.length_append] at hl
    have : t = [] := List.eq_nil_of_length_eq_zero (by omega)
    rw [this, List.append_nil] at ht
    exact absurd ht hne

end BtcHd.ScriptLemmas
