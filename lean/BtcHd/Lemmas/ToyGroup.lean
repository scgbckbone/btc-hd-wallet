/-
A second toy instance of the primitives, used only as a non-vacuity witness for the C14
theorems: the toy curve Z/5 of `ToyCurve.lean` with a PRF whose left half is the integer 1,
so that child derivation actually succeeds (`k ↦ k + 1 mod 5`).  It satisfies both
`CurveLaws` and `C02.GroupLaws`.  Nothing about secp256k1 / HMAC-SHA512 is claimed here.
-/
import BtcHd.Lemmas.ToyNodes
import BtcHd.Props.C02

namespace BtcHd.Toy
open BtcHd Bip32 Keys BeFixed

/-- 64 bytes: left half is the integer 1 (the `IL` of every derivation), right half (the chain code of every
child, any value would do) is nine-bytes -/
def hmacOne : Bytes := List.replicate 31 0 ++ [1] ++ List.replicate 32 9

/-- the toy primitives with a PRF whose `IL` is 1 -/
def prims1 : Prims Nat := { prims with hmac512 := fun _ _ => hmacOne }

theorem hash256_length1 (x : Bytes) : (prims1.hash256 x).length = 32 := by
  simp [Prims.hash256, prims1, prims]

theorem hash256_len1 (x : Bytes) : 4 ≤ (prims1.hash256 x).length := by
  rw [hash256_length1]; decide

theorem laws1 : CurveLaws prims1.curve := laws

theorem groupLaws1 : C02.GroupLaws prims1 where
  n_pos := by decide
  n_le := by decide
  mulGen_add := by
    intro a b
    show ((a + b) % 5) % 5 = (a % 5 + b % 5) % 5
    rw [Nat.mod_mod, Nat.add_mod]
  mulGen_inf := by
    intro a
    show decide (a % 5 = 0 ∨ 256 ^ 32 ≤ a % 5) = true ↔ 5 ∣ a
    rw [decide_eq_true_iff]
    omega
  parse_sec := fun pt h => laws.parse_sec true pt (Bool.not_eq_true _ ▸ h)
  hmac_len := by intro _ _; rfl

theorem IL1 (nd : Node) (k i : Nat) : C02.IL prims1 nd k i = 1 := by
  show beToNat (hmacOne.take 32) = 1
  decide

theorem prvNode_wf1 : prvNode.WF prims1 := { prvNode_wf with }

theorem prvNode_child1 : ∃ c, derivePath prims1 prvNode [7] = some c :=
  ⟨_, rfl⟩

end BtcHd.Toy
