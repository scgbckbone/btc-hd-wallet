/-
For C03: the network flag commutes with derivation, the master node is well-formed.
-/
import BtcHd.Lemmas.XKey

namespace BtcHd.Bip32
open BtcHd Keys

variable {Pt : Type}

/-- the same node on network `t` -/
def setNet (t : Bool) (nd : Node) : Node := { nd with testnet := t }

theorem setNet_testnet (t : Bool) (nd : Node) : (setNet t nd).testnet = t := rfl
theorem setNet_self (nd : Node) : setNet nd.testnet nd = nd := rfl
theorem setNet_setNet (t t' : Bool) (nd : Node) : setNet t (setNet t' nd) = setNet t nd := rfl

theorem pubKey_setNet (P : Prims Pt) (t : Bool) (nd : Node) :
    pubKey P (setNet t nd) = pubKey P nd := rfl

theorem mkChild_setNet (t : Bool) (nd : Node) (key chain : Bytes) (i : Nat) (fp : Bytes) :
    mkChild (setNet t nd) key chain i fp = setNet t (mkChild nd key chain i fp) := rfl

theorem ckd_setNet (P : Prims Pt) (t : Bool) (nd : Node) (i : Nat) :
    ckd P (setNet t nd) i = (ckd P nd i).map (setNet t) :=
  ckd_eq_map P rfl rfl rfl fun _ _ _ => rfl

theorem derivePath_setNet (P : Prims Pt) (t : Bool) (nd : Node) (is : List Nat) :
    derivePath P (setNet t nd) is = (derivePath P nd is).map (setNet t) := by
  induction is generalizing nd with
  | nil => rfl
  | cons i is ih =>
    simp only [derivePath, ckd_setNet, Option.bind_map, Option.map_bind, Function.comp_def, ih]

theorem masterKey_setNet (P : Prims Pt) (seed : Bytes) (t t' : Bool) :
    masterKey P seed t = (masterKey P seed t').map (setNet t) := by
  rw [masterKey_eq, masterKey_eq]
  split <;> rfl

theorem masterKey_WF {P : Prims Pt}
    (hhmac : ∀ k d, (P.hmac512 k d).length = 64) {seed : Bytes} {t : Bool} {m : Node}
    (h : masterKey P seed t = some m) : m.WF P := by
  have hl := hhmac Generated.masterKeyHmacKey seed
  obtain ⟨hv, rfl⟩ := masterKey_eq_some.mp h
  exact {
    chain_len := by rw [List.length_drop, hl]
    fp_len := rfl
    depth_lt := by show 0 < 256; decide
    index_lt := by show 0 < 2 ^ 32; decide
    key_prv := fun _ => ⟨_, hv.1, hv.2,
      .inl (BeFixed.beFixed_beToNat (by rw [List.length_take, hl]; rfl)).symm⟩
    key_pub := fun hp => by cases hp }

end BtcHd.Bip32
