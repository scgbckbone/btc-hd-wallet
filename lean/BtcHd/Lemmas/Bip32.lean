/-
What each function of the BIP32 model (`Model/Bip32.lean`) does: when a scalar is valid, the master node, one
derivation step (`ckdPrv`, `ckdPub` as one equation each for inputs in range; what `ckd` reads of the parent), and
`derivePath` as the iteration of `ckd` with an induction principle along a derivation, and how a derived node prints.
C01, C02, C03 and C18 are read off these.
-/
import BtcHd.Lemmas.BeFixed
import BtcHd.Lemmas.Ripemd
import BtcHd.Model.Bip32

namespace BtcHd.Bip32
open BtcHd BeFixed Keys

variable {Pt : Type}

theorem hardened_eq : hardened = 2 ^ 31 := by decide

theorem hash160_length (P : Prims Pt) (d : Bytes) : (hash160 P d).length = 20 :=
  RipemdL.ripemd160_length _

theorem fp_length (P : Prims Pt) (d : Bytes) : ((hash160 P d).take 4).length = 4 := by
  simp [hash160_length]

theorem parentFingerprint_some {nd : Node} {fp : Bytes} (h : nd.parentFp = some fp) (hl : fp.length = 4) :
    parentFingerprint nd = fp := by
  unfold parentFingerprint
  rw [h]
  cases fp with
  | nil => cases hl
  | cons a as => rfl

theorem mkPriv_eq_some {C : Curve Pt} {bs : Bytes} {k : Nat} :
    mkPriv C bs = some k ↔ bs.length = 32 ∧ 1 ≤ k ∧ k < C.n ∧ k = beToNat bs := by
  simp only [mkPriv, Option.ite_none_right_eq_some, Option.some.injEq]
  constructor
  · rintro ⟨⟨h1, h2, h3⟩, rfl⟩; exact ⟨h1, h2, h3, rfl⟩
  · rintro ⟨h1, h2, h3, rfl⟩; exact ⟨⟨h1, h2, h3⟩, rfl⟩

theorem mkPriv_eq_none {C : Curve Pt} {bs : Bytes} :
    mkPriv C bs = none ↔ bs.length ≠ 32 ∨ beToNat bs = 0 ∨ C.n ≤ beToNat bs := by
  simp only [mkPriv, ite_eq_right_iff, reduceCtorEq, imp_false]
  omega

theorem mkPriv_beFixed {C : Curve Pt} {k : Nat} (h1 : 1 ≤ k) (h2 : k < C.n) (hn : C.n ≤ 2 ^ 256) :
    mkPriv C (beFixed 32 k) = some k :=
  mkPriv_eq_some.mpr ⟨beFixed_length _ _, h1, h2, (beToNat_beFixed (by omega)).symm⟩

/-- whether the key is stored as 32 bytes or as `00 ‖ 32 bytes`, the scalar is its integer value -/
theorem prvKey_eq_some {P : Prims Pt} {nd : Node} {k : Nat} (h : prvKey P nd = some k) :
    1 ≤ k ∧ k < P.curve.n ∧ k = beToNat nd.key ∧ k < 256 ^ 32 := by
  unfold prvKey at h
  split at h
  · next hc =>
    obtain ⟨hl, h1, h2, rfl⟩ := mkPriv_eq_some.mp h
    obtain ⟨as, hk⟩ := List.head?_eq_some_iff.mp hc.2
    refine ⟨h1, h2, ?_, hl ▸ beToNat_lt _⟩
    rw [hk]
    exact (beToNat_zero_cons as).symm
  · obtain ⟨hl, h1, h2, rfl⟩ := mkPriv_eq_some.mp h
    exact ⟨h1, h2, rfl, hl ▸ beToNat_lt _⟩

theorem prvKey_eq_beToNat {P : Prims Pt} {nd : Node} {k : Nat} (h : prvKey P nd = some k) :
    k = beToNat nd.key :=
  (prvKey_eq_some h).2.2.1

theorem prvKey_range {P : Prims Pt} {nd : Node} {k : Nat} (h : prvKey P nd = some k) :
    1 ≤ k ∧ k < P.curve.n :=
  ⟨(prvKey_eq_some h).1, (prvKey_eq_some h).2.1⟩

theorem prvKey_lt {P : Prims Pt} {nd : Node} {k : Nat} (h : prvKey P nd = some k) : k < 256 ^ 32 :=
  (prvKey_eq_some h).2.2.2

theorem prvKey_of_key {P : Prims Pt} {nd : Node} {k : Nat} (h1 : 1 ≤ k) (h2 : k < P.curve.n)
    (hn : P.curve.n ≤ 2 ^ 256) (hk : nd.key = beFixed 32 k ∨ nd.key = 0 :: beFixed 32 k) :
    prvKey P nd = some k := by
  unfold prvKey
  rcases hk with hk | hk <;> rw [hk]
  · rw [if_neg (by rw [beFixed_length]; omega)]
    exact mkPriv_beFixed h1 h2 hn
  · rw [if_pos ⟨by rw [List.length_cons, beFixed_length], rfl⟩]
    exact mkPriv_beFixed h1 h2 hn

theorem pubKey_of_prvKey {P : Prims Pt} {nd : Node} {k : Nat} (hp : nd.isPrv = true)
    (hk : prvKey P nd = some k) : pubKey P nd = some (P.curve.mulGen k) := by
  unfold pubKey
  rw [if_pos hp, hk]
  rfl

theorem pubKey_of_pub {P : Prims Pt} {nd : Node} (hpub : nd.isPrv = false) :
    pubKey P nd = P.curve.parse nd.key := by
  unfold pubKey
  rw [hpub]
  rfl

/-- `masterKey` with its two tests as BIP32's validity condition on `IL` -/
theorem masterKey_eq (P : Prims Pt) (seed : Bytes) (t : Bool) :
    masterKey P seed t =
      if 1 ≤ beToNat ((P.hmac512 Generated.masterKeyHmacKey seed).take 32) ∧
          beToNat ((P.hmac512 Generated.masterKeyHmacKey seed).take 32) < P.curve.n then
        some { isPrv := true, key := (P.hmac512 Generated.masterKeyHmacKey seed).take 32,
               chainCode := (P.hmac512 Generated.masterKeyHmacKey seed).drop 32, depth := 0,
               index := 0, testnet := t, hasParent := false, parentFp := none, path := [],
               parsedVersion := none }
      else none := by
  unfold masterKey
  dsimp only
  split
  · rw [if_neg (by omega)]
  · split
    · rw [if_neg (by omega)]
    · rw [if_pos (by omega)]

theorem masterKey_eq_some {P : Prims Pt} {seed : Bytes} {t : Bool} {m : Node} :
    masterKey P seed t = some m ↔
      (1 ≤ beToNat ((P.hmac512 Generated.masterKeyHmacKey seed).take 32) ∧
        beToNat ((P.hmac512 Generated.masterKeyHmacKey seed).take 32) < P.curve.n) ∧
      { isPrv := true, key := (P.hmac512 Generated.masterKeyHmacKey seed).take 32,
        chainCode := (P.hmac512 Generated.masterKeyHmacKey seed).drop 32, depth := 0, index := 0,
        testnet := t, hasParent := false, parentFp := none, path := [], parsedVersion := none } = m := by
  rw [masterKey_eq, Option.ite_none_right_eq_some, Option.some.injEq]

theorem mkChild_key (nd : Node) (key chain : Bytes) (i : Nat) (fp : Bytes) :
    (mkChild nd key chain i fp).key = key := rfl

theorem mkChild_isPrv (nd : Node) (key chain : Bytes) (i : Nat) (fp : Bytes) :
    (mkChild nd key chain i fp).isPrv = nd.isPrv := rfl

theorem mkChild_testnet (nd : Node) (key chain : Bytes) (i : Nat) (fp : Bytes) :
    (mkChild nd key chain i fp).testnet = nd.testnet := rfl

theorem mkChild_chainCode (nd : Node) (key chain : Bytes) (i : Nat) (fp : Bytes) :
    (mkChild nd key chain i fp).chainCode = chain := rfl

theorem mkChild_depth (nd : Node) (key chain : Bytes) (i : Nat) (fp : Bytes) :
    (mkChild nd key chain i fp).depth = nd.depth + 1 := rfl

theorem mkChild_index (nd : Node) (key chain : Bytes) (i : Nat) (fp : Bytes) :
    (mkChild nd key chain i fp).index = i := rfl

theorem mkChild_path (nd : Node) (key chain : Bytes) (i : Nat) (fp : Bytes) :
    (mkChild nd key chain i fp).path = nd.path ++ [i] := rfl

theorem mkChild_parentFp (nd : Node) (key chain : Bytes) (i : Nat) (fp : Bytes) :
    (mkChild nd key chain i fp).parentFp = some fp := rfl

theorem mkChild_hasParent (nd : Node) (key chain : Bytes) (i : Nat) (fp : Bytes) :
    (mkChild nd key chain i fp).hasParent = true := rfl

theorem mkChild_prvKey (P : Prims Pt) (nd : Node) (ki : Nat) (IR : Bytes) (i : Nat) (fp : Bytes)
    (h1 : 1 ≤ ki) (h2 : ki < P.curve.n) (hn : P.curve.n ≤ 2 ^ 256) :
    prvKey P (mkChild nd (beFixed 32 ki) IR i fp) = some ki :=
  prvKey_of_key h1 h2 hn (.inl rfl)

theorem ckd_eq_ckdPrv (P : Prims Pt) {nd : Node} (hp : nd.isPrv = true) (i : Nat) :
    ckd P nd i = ckdPrv P nd i :=
  if_pos hp

theorem ckd_eq_ckdPub (P : Prims Pt) {nd : Node} (hp : nd.isPrv = false) (i : Nat) :
    ckd P nd i = ckdPub P nd i :=
  if_neg (by rw [hp]; exact Bool.false_ne_true)

/-! **A derivation step reads only the class, key and chain code of the parent**; the parent's other fields reach
the child through `mkChild` alone.  So deriving from `a` is deriving from `b` followed by whatever `g` turns
children of `b` into children of `a`. -/

theorem ckdPrv_eq_map (P : Prims Pt) {a b : Node} {i : Nat} {g : Node → Node} (hk : a.key = b.key)
    (hc : a.chainCode = b.chainCode)
    (hg : ∀ key chain fp, mkChild a key chain i fp = g (mkChild b key chain i fp)) :
    ckdPrv P a i = (ckdPrv P b i).map g := by
  unfold ckdPrv prvKey
  rw [hk, hc]
  simp only [hg, Option.map_bind, Option.map_map, apply_ite (Option.map g), Option.map_none,
    Function.comp_def]

theorem ckdPub_eq_map (P : Prims Pt) {a b : Node} {i : Nat} {g : Node → Node} (hk : a.key = b.key)
    (hc : a.chainCode = b.chainCode)
    (hg : ∀ key chain fp, mkChild a key chain i fp = g (mkChild b key chain i fp)) :
    ckdPub P a i = (ckdPub P b i).map g := by
  unfold ckdPub
  rw [hk, hc]
  simp only [hg, Option.map_bind, apply_ite (Option.map g), Option.map_none, Option.map_some,
    Function.comp_def]

theorem ckd_eq_map (P : Prims Pt) {a b : Node} {i : Nat} {g : Node → Node} (hp : a.isPrv = b.isPrv)
    (hk : a.key = b.key) (hc : a.chainCode = b.chainCode)
    (hg : ∀ key chain fp, mkChild a key chain i fp = g (mkChild b key chain i fp)) :
    ckd P a i = (ckd P b i).map g := by
  unfold ckd
  rw [hp, apply_ite (Option.map g), ckdPrv_eq_map P hk hc hg, ckdPub_eq_map P hk hc hg]

theorem ckd_eq_mkChild {P : Prims Pt} {nd c : Node} {i : Nat} (h : ckd P nd i = some c) :
    ∃ key chain fp, c = mkChild nd key chain i fp := by
  -- a child of `nd` is not changed by putting its key, chain code and fingerprint under `mkChild nd` again
  have := ckd_eq_map P (a := nd) (b := nd) (i := i)
    (g := fun c => mkChild nd c.key c.chainCode i (c.parentFp.getD [])) rfl rfl rfl fun _ _ _ => rfl
  rw [h] at this
  exact ⟨_, _, _, Option.some.inj this⟩

theorem ckd_testnet {P : Prims Pt} {nd c : Node} {i : Nat} (h : ckd P nd i = some c) :
    c.testnet = nd.testnet := by
  obtain ⟨_, _, _, rfl⟩ := ckd_eq_mkChild h
  rfl

theorem ckd_fields {P : Prims Pt} {nd c : Node} {i : Nat} (h : ckd P nd i = some c) :
    c.isPrv = nd.isPrv ∧ c.path = nd.path ++ [i] := by
  obtain ⟨_, _, _, rfl⟩ := ckd_eq_mkChild h
  exact ⟨rfl, rfl⟩

theorem mod_n_lt {n : Nat} (h0 : 0 < n) (hn : n ≤ 2 ^ 256) (x : Nat) : x % n < 256 ^ 32 := by
  have := Nat.mod_lt x h0
  omega

/-- the HMAC input of `PrvKeyNode.ckd` -/
def ckdPrvData (P : Prims Pt) (k index : Nat) : Bytes :=
  if index ≥ hardened then [0] ++ privBytes k ++ beFixed 4 index
  else P.curve.sec true (P.curve.mulGen k) ++ beFixed 4 index

theorem ckdPrv_eq (P : Prims Pt) (nd : Node) (index k : Nat) (hk : prvKey P nd = some k)
    (hi : index < 2 ^ 32) (hn : P.curve.n ≤ 2 ^ 256) :
    ckdPrv P nd index =
      if P.curve.n ≤ beToNat ((P.hmac512 nd.chainCode (ckdPrvData P k index)).take 32) then none
      else if (beToNat ((P.hmac512 nd.chainCode (ckdPrvData P k index)).take 32) + k) % P.curve.n = 0 then none
      else some (mkChild nd
        (beFixed 32 ((beToNat ((P.hmac512 nd.chainCode (ckdPrvData P k index)).take 32) + k) % P.curve.n))
        ((P.hmac512 nd.chainCode (ckdPrvData P k index)).drop 32) index
        ((hash160 P (P.curve.sec true (P.curve.mulGen k))).take 4)) := by
  simp only [ckdPrv, hk, toBytesBE_eq_some (show index < 256 ^ 4 by omega),
    toBytesBE_eq_some (mod_n_lt (Nat.zero_lt_of_lt (prvKey_range hk).2) hn _),
    Option.bind_some, Option.map_some, ge_iff_le]
  rfl

theorem ckdPrv_eq_some {P : Prims Pt} {nd c : Node} {index k : Nat} (hk : prvKey P nd = some k)
    (hi : index < 2 ^ 32) (hn : P.curve.n ≤ 2 ^ 256) (hc : ckdPrv P nd index = some c) :
    ∃ ki IR fp, 1 ≤ ki ∧ ki < P.curve.n ∧
      beToNat ((P.hmac512 nd.chainCode (ckdPrvData P k index)).take 32) < P.curve.n ∧
      c = mkChild nd (beFixed 32 ki) IR index fp := by
  rw [ckdPrv_eq P nd index k hk hi hn] at hc
  split at hc
  · cases hc
  · split at hc
    · cases hc
    · next h1 h2 =>
      exact ⟨_, _, _, Nat.pos_of_ne_zero h2, Nat.mod_lt _ (by omega), by omega, (Option.some.inj hc).symm⟩

theorem ckdPrv_of_overflow (P : Prims Pt) (nd : Node) {i : Nat} (hi : 2 ^ 32 ≤ i) : ckdPrv P nd i = none := by
  unfold ckdPrv
  rw [toBytesBE_eq_none (by omega)]
  cases prvKey P nd <;> rfl

theorem ckdPrv_prvKey (P : Prims Pt) (hn : P.curve.n ≤ 2 ^ 256) {nd c : Node} {k i : Nat}
    (hk : prvKey P nd = some k) (hc : ckdPrv P nd i = some c) :
    c.isPrv = nd.isPrv ∧ ∃ kc, prvKey P c = some kc := by
  have hi : i < 2 ^ 32 := Nat.lt_of_not_le fun hi => by rw [ckdPrv_of_overflow P nd hi] at hc; cases hc
  obtain ⟨ki, IR, fp, h1, h2, _, rfl⟩ := ckdPrv_eq_some hk hi hn hc
  exact ⟨mkChild_isPrv .., ki, mkChild_prvKey P nd ki IR i fp h1 h2 hn⟩

/-- the model's separate test `IL ≥ n` is part of `mkPriv` -/
theorem ckdPub_eq (P : Prims Pt) (nd : Node) {i : Nat} (hi : i < 2 ^ 31) :
    ckdPub P nd i =
      (mkPriv P.curve ((P.hmac512 nd.chainCode (nd.key ++ beFixed 4 i)).take 32)).bind fun il =>
      (P.curve.parse nd.key).bind fun K =>
        if P.curve.isInf (P.curve.add (P.curve.mulGen il) K) then none
        else some (mkChild nd (P.curve.sec true (P.curve.add (P.curve.mulGen il) K))
          ((P.hmac512 nd.chainCode (nd.key ++ beFixed 4 i)).drop 32) i
          ((hash160 P (P.curve.sec true K)).take 4)) := by
  unfold ckdPub
  rw [if_neg (by rw [hardened_eq]; omega), toBytesBE_eq_some (by omega)]
  simp only [Option.bind_some]
  split
  · next h => rw [mkPriv_eq_none.mpr (.inr (.inr h))]; rfl
  · rfl

theorem ckdPub_of_hardened (P : Prims Pt) (nd : Node) {i : Nat} (hi : 2 ^ 31 ≤ i) : ckdPub P nd i = none :=
  if_pos (by rw [hardened_eq]; exact hi)

theorem ckd_of_hardened (P : Prims Pt) {nd : Node} {i : Nat} (hp : nd.isPrv = false) (hi : 2 ^ 31 ≤ i) :
    ckd P nd i = none := by
  rw [ckd_eq_ckdPub P hp, ckdPub_of_hardened P nd hi]

theorem derivePath_cons (P : Prims Pt) (nd : Node) (i : Nat) (is : List Nat) :
    derivePath P nd (i :: is) = (ckd P nd i).bind fun c => derivePath P c is := rfl

theorem derivePath_eq_foldlM (P : Prims Pt) (nd : Node) (is : List Nat) :
    derivePath P nd is = is.foldlM (ckd P) nd := by
  induction is generalizing nd with
  | nil => rfl
  | cons i is ih =>
    rw [derivePath_cons, List.foldlM_cons]
    cases ckd P nd i with
    | none => rfl
    | some c => exact ih c

theorem derivePath_append (P : Prims Pt) (nd : Node) (a b : List Nat) :
    derivePath P nd (a ++ b) = (derivePath P nd a).bind fun c => derivePath P c b := by
  simp only [derivePath_eq_foldlM, List.foldlM_append, Option.bind_eq_bind]

theorem derivePath_singleton (P : Prims Pt) (nd : Node) (i : Nat) :
    derivePath P nd [i] = ckd P nd i :=
  Option.bind_fun_some _

theorem derivePath_append_of_some {P : Prims Pt} {root nd : Node} {path : List Nat}
    (hd : derivePath P root path = some nd) (is : List Nat) :
    derivePath P root (path ++ is) = derivePath P nd is := by
  rw [derivePath_append, hd, Option.bind_some]

theorem derivePath_snoc_of_some {P : Prims Pt} {root nd : Node} {path : List Nat}
    (hd : derivePath P root path = some nd) (i : Nat) :
    derivePath P root (path ++ [i]) = ckd P nd i := by
  rw [derivePath_append_of_some hd, derivePath_singleton]

/-- induction along a derivation: a property of (indexes used so far, node reached) that every
`ckd` step carries over holds at the end -/
theorem derivePath_induction {P : Prims Pt} {Q : List Nat → Node → Prop}
    (step : ∀ js nd i c, Q js nd → ckd P nd i = some c → Q (js ++ [i]) c) {nd c : Node}
    {is : List Nat} (h0 : Q [] nd) (h : derivePath P nd is = some c) : Q is c := by
  have key (is : List Nat) : ∀ js nd, Q js nd → derivePath P nd is = some c → Q (js ++ is) c := by
    induction is with
    | nil => intro js nd hq h; cases h; rwa [List.append_nil]
    | cons i is ih =>
      intro js nd hq h
      obtain ⟨c', hc, h⟩ := Option.bind_eq_some_iff.mp h
      rw [List.append_cons]
      exact ih _ c' (step js nd i c' hq hc) h
  exact key is [] nd h0 h

theorem derivePath_fields {P : Prims Pt} {nd c : Node} {is : List Nat}
    (h : derivePath P nd is = some c) : c.isPrv = nd.isPrv ∧ c.path = nd.path ++ is := by
  refine derivePath_induction (Q := fun js c => c.isPrv = nd.isPrv ∧ c.path = nd.path ++ js)
    (fun js _ i c' hq hc => ?_) ⟨rfl, (List.append_nil _).symm⟩ h
  obtain ⟨h1, h2⟩ := ckd_fields hc
  exact ⟨h1.trans hq.1, by rw [h2, hq.2, List.append_assoc]⟩

theorem lt_of_derivePath_of_pub {P : Prims Pt} {nd c : Node} {is : List Nat} (hp : nd.isPrv = false)
    (h : derivePath P nd is = some c) : ∀ i ∈ is, i < 2 ^ 31 := by
  refine (derivePath_induction (Q := fun js c => c.isPrv = false ∧ ∀ i ∈ js, i < 2 ^ 31)
    (fun js nd i c hq hc => ⟨(ckd_fields hc).1.trans hq.1, fun j hj => ?_⟩) ⟨hp, nofun⟩ h).2
  rcases List.mem_append.mp hj with hj | hj
  · exact hq.2 j hj
  · cases List.mem_singleton.mp hj
    refine Nat.lt_of_not_le fun hi => ?_
    rw [ckd_of_hardened P hq.1 hi] at hc
    cases hc

theorem derivePath_prvKey (P : Prims Pt) (hn : P.curve.n ≤ 2 ^ 256) (is : List Nat) {nd c : Node}
    {k : Nat} (hp : nd.isPrv = true) (hk : prvKey P nd = some k)
    (h : derivePath P nd is = some c) : c.isPrv = true ∧ ∃ kc, prvKey P c = some kc := by
  refine derivePath_induction (Q := fun _ c => c.isPrv = true ∧ ∃ kc, prvKey P c = some kc)
    (fun _ nd i c ⟨hp, k, hk⟩ hc => ?_) ⟨hp, k, hk⟩ h
  rw [ckd_eq_ckdPrv P hp] at hc
  exact ⟨(ckdPrv_prvKey P hn hk hc).1.trans hp, (ckdPrv_prvKey P hn hk hc).2⟩

theorem derivePath_testnet {P : Prims Pt} {nd c : Node} {is : List Nat}
    (h : derivePath P nd is = some c) : c.testnet = nd.testnet :=
  derivePath_induction (Q := fun _ c => c.testnet = nd.testnet)
    (fun _ _ _ _ hq hc => (ckd_testnet hc).trans hq) rfl h

theorem nodeRepr_of_derive {P : Prims Pt} {nd c : Node} {is : List Nat}
    (h : derivePath P nd is = some c) : nodeRepr c = Path.format ⟨nd.path ++ is, nd.isPrv⟩ := by
  obtain ⟨h1, h2⟩ := derivePath_fields h
  unfold nodeRepr Path.format
  rw [h1, h2]
  rfl

end BtcHd.Bip32
