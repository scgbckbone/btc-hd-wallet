/-
The codec half of C11.  The created checksum verifies (from the algebra of the checksum register in
`Lemmas/Polymod.lean`); `bech32Decode` and the segwit `decode` are characterised by what they check;
`encode` returns the address of a legal input and nothing else (with the round trip of
`Lemmas/Convertbits.lean`).  The vocabulary of the C11 statements (`C11.Legal`, `C11.specFor`) is defined
here, in front of the lemmas that speak of it.
-/
import BtcHd.Lemmas.Convertbits
import BtcHd.Lemmas.Polymod

namespace BtcHd.Bech32
open BtcHd Digits Basics

theorem bech32mConst_lt : bech32mConst < 2 ^ 30 := by decide

theorem constOf_lt (s : Encoding) : constOf s < 2 ^ 30 := by
  cases s
  · decide
  · exact bech32mConst_lt

/-- while the register stays below `2 ^ 30` there is no feedback: it is a shift register taking
5-bit symbols -/
theorem foldl_polymodStep_eq_horner : ∀ (cs : List Nat) (d : Nat), (∀ s ∈ cs, s < 32) →
    horner 32 cs d < 2 ^ 30 → cs.foldl polymodStep d = horner 32 cs d
  | [], _, _, _ => rfl
  | s :: cs, d, hs, h => by
    have hd : d * 32 + s < 2 ^ 30 := Nat.lt_of_le_of_lt (le_horner (by decide) cs _) h
    rw [List.foldl_cons, polymodStep_xor, polymodStep_zero_of_lt (by omega),
      shiftLeft_xor_of_lt (k := 5) d (hs s List.mem_cons_self)]
    exact foldl_polymodStep_eq_horner cs _ (fun x hx => hs x (List.mem_cons_of_mem _ hx)) h

theorem createChecksum_lt (hrp : List Char) (data : List Nat) (spec : Encoding) :
    ∀ d ∈ createChecksum hrp data spec, d < 32 := by
  intro d hd
  simp only [createChecksum, List.mem_map] at hd
  obtain ⟨i, _, rfl⟩ := hd
  rw [Nat.and_two_pow_sub_one_eq_mod _ 5]
  exact Nat.mod_lt _ (by decide)

theorem createChecksum_length (hrp : List Char) (data : List Nat) (spec : Encoding) :
    (createChecksum hrp data spec).length = 6 := rfl

theorem polymod_createChecksum (hrp : List Char) (data : List Nat) (spec : Encoding) :
    polymod (hrpExpand hrp ++ (data ++ createChecksum hrp data spec)) = constOf spec := by
  -- the checksum spells, in base 32, `pm` = (the result with six zeros in its place) ⊕ constant;
  -- `pm < 2 ^ 30` because the last of those steps had input 0
  have hpm : polymod (hrpExpand hrp ++ data ++ [0, 0, 0, 0, 0, 0]) ^^^ constOf spec < 2 ^ 30 :=
    Nat.xor_lt_two_pow (by rw [polymod_append]; exact polymodStep_lt (by decide)) (constOf_lt spec)
  have hh : horner 32 (createChecksum hrp data spec) 0 = _ % 2 ^ 30 :=
    (horner_zero ..).trans (ofDigits_groups 5 _ 6)
  rw [Nat.mod_eq_of_lt hpm] at hh
  -- so, fed from 0, the checksum symbols give `pm`; fed after the data, six zeros ⊕ that
  rw [← List.append_assoc, polymod_append, foldl_polymodStep_eq_xor,
    foldl_polymodStep_eq_horner _ _ (createChecksum_lt hrp data spec) (hh ▸ hpm), hh]
  show [0, 0, 0, 0, 0, 0].foldl polymodStep _ ^^^ _ = _
  rw [← polymod_append, ← Nat.xor_assoc, Nat.xor_self, Nat.zero_xor]

theorem polymod_checksum (hrp : List Char) (data : List Nat) (spec : Encoding)
    (_hd : ∀ d ∈ data, d < 32) :
    polymod (hrpExpand hrp ++ (data ++ createChecksum hrp data spec)) = constOf spec :=
  polymod_createChecksum hrp data spec

theorem checksum_valid (hrp : List Char) (data : List Nat) (spec : Encoding)
    (hd : ∀ d ∈ data, d < 32) :
    verifyChecksum hrp (data ++ createChecksum hrp data spec) = some spec :=
  verifyChecksum_eq_some_iff.mpr (polymod_checksum hrp data spec hd)

theorem isUpperAscii_iff (c : Char) : isUpperAscii c = true ↔ 65 ≤ c.toNat ∧ c.toNat ≤ 90 := by
  simp only [isUpperAscii, Bool.and_eq_true, decide_eq_true_eq, Char.le_def, UInt32.le_iff_toNat_le]
  rfl

theorem isLowerAscii_iff (c : Char) : isLowerAscii c = true ↔ 97 ≤ c.toNat ∧ c.toNat ≤ 122 := by
  simp only [isLowerAscii, Bool.and_eq_true, decide_eq_true_eq, Char.le_def, UInt32.le_iff_toNat_le]
  rfl

theorem toLowerAscii_cases (c : Char) :
    (isUpperAscii c = false ∧ toLowerAscii c = c) ∨
      (65 ≤ c.toNat ∧ c.toNat ≤ 90 ∧ (toLowerAscii c).toNat = c.toNat + 32) := by
  cases h : isUpperAscii c with
  | false => exact .inl ⟨rfl, by rw [toLowerAscii, h]; rfl⟩
  | true =>
    have hr := (isUpperAscii_iff c).mp h
    exact .inr ⟨hr.1, hr.2, by rw [toLowerAscii, if_pos h]; exact Basics.toNat_ofNat_of_lt (by omega)⟩

theorem toLowerAscii_eq_self_iff {c : Char} : toLowerAscii c = c ↔ isUpperAscii c = false := by
  rcases toLowerAscii_cases c with ⟨h, e⟩ | ⟨h1, h2, e⟩
  · exact iff_of_true e h
  · exact iff_of_false (fun he => by rw [he] at e; omega)
      (by rw [(isUpperAscii_iff c).mpr ⟨h1, h2⟩]; nofun)

theorem isUpperAscii_toLowerAscii (c : Char) : isUpperAscii (toLowerAscii c) = false := by
  rcases toLowerAscii_cases c with ⟨h, e⟩ | ⟨h1, h2, e⟩
  · rw [e, h]
  · exact Bool.eq_false_iff.mpr fun hu => by have := (isUpperAscii_iff _).mp hu; omega

theorem map_toLowerAscii_eq_self_iff {s : List Char} :
    s.map toLowerAscii = s ↔ ∀ c ∈ s, isUpperAscii c = false := by
  simp only [map_eq_self_iff, toLowerAscii_eq_self_iff]

theorem toLowerAscii_eq_one {c : Char} : toLowerAscii c = '1' ↔ c = '1' := by
  have h49 : ('1' : Char).toNat = 49 := rfl
  rcases toLowerAscii_cases c with ⟨-, e⟩ | ⟨h1, h2, e⟩
  · rw [e]
  · exact iff_of_false (fun he => by rw [he] at e; omega) (fun he => by rw [he] at h1; omega)

theorem one_mem_map_toLowerAscii {s : List Char} : '1' ∈ s.map toLowerAscii ↔ '1' ∈ s := by
  simp [toLowerAscii_eq_one]

theorem charset_length : charset.length = 32 := by decide
theorem charset_nodup : charset.Nodup := by decide +kernel
theorem charset_props :
    ∀ c ∈ charset, isUpperAscii c = false ∧ 33 ≤ c.toNat ∧ c.toNat ≤ 126 ∧ c ≠ '1' := by
  decide +kernel

/-- total version of `CHARSET[d]` -/
def chr (d : Nat) : Char := charset.getD d 'q'

theorem charAt_of_lt {d : Nat} (h : d < 32) : charAt d = some (chr d) := by
  have h' : d < charset.length := charset_length ▸ h
  rw [charAt, chr, Basics.getD_eq_getElem h', List.getElem?_eq_getElem h']

theorem charAt_of_ge {d : Nat} (h : 32 ≤ d) : charAt d = none :=
  List.getElem?_eq_none (by rw [charset_length]; exact h)

theorem chr_mem {d : Nat} (h : d < 32) : chr d ∈ charset :=
  Basics.getD_mem (charset_length ▸ h) _

theorem idxOf_chr {d : Nat} (h : d < 32) : charset.idxOf (chr d) = d :=
  Basics.idxOf_getD charset_nodup (charset_length ▸ h) _

theorem chr_injective {d e : Nat} (hd : d < 32) (he : e < 32) (h : chr d = chr e) : d = e := by
  rw [← idxOf_chr hd, ← idxOf_chr he, h]

theorem chr_idxOf {c : Char} (h : c ∈ charset) : chr (charset.idxOf c) = c :=
  Basics.getD_idxOf h _

theorem idxOf_lt {c : Char} (h : c ∈ charset) : charset.idxOf c < 32 :=
  charset_length ▸ List.idxOf_lt_length_of_mem h

theorem rfindOne_eq_none {s : List Char} : rfindOne s = none ↔ '1' ∉ s := by
  unfold rfindOne
  simp only [List.mem_reverse]
  split <;> simp_all

theorem rfindOne_split {pre dp : List Char} (h : '1' ∉ dp) :
    rfindOne (pre ++ '1' :: dp) = some pre.length := by
  unfold rfindOne
  have hr : (pre ++ '1' :: dp).reverse = dp.reverse ++ '1' :: pre.reverse := by simp
  simp only [hr]
  rw [if_pos (by simp), List.idxOf_append, if_neg (by simpa using h), List.idxOf_cons_self]
  simp only [List.length_append, List.length_cons, List.length_reverse]
  congr 1; omega

theorem rfindOne_eq_some {s : List Char} {pos : Nat} (h : rfindOne s = some pos) :
    ∃ pre dp, s = pre ++ '1' :: dp ∧ '1' ∉ dp ∧ pos = pre.length := by
  have hm : '1' ∈ s := Decidable.byContradiction fun hn => by
    rw [rfindOne_eq_none.mpr hn] at h; cases h
  obtain ⟨as, bs, e, hn⟩ := List.eq_append_cons_of_mem (List.mem_reverse.mpr hm)
  have hs : s = bs.reverse ++ '1' :: as.reverse := by
    have := congrArg List.reverse e
    simpa using this
  have hn' : '1' ∉ as.reverse := by simpa using hn
  refine ⟨bs.reverse, as.reverse, hs, hn', ?_⟩
  rw [hs, rfindOne_split hn'] at h
  exact (Option.some.inj h).symm

/-- a string splits at its last `1` in only one way -/
theorem append_one_inj {p p' d d' : List Char} (h : p ++ '1' :: d = p' ++ '1' :: d')
    (hd : '1' ∉ d) (hd' : '1' ∉ d') : p = p' ∧ d = d' := by
  have hl : p.length = p'.length :=
    Option.some.inj ((rfindOne_split hd).symm.trans (h ▸ rfindOne_split hd'))
  exact ⟨(List.append_inj h hl).1, (List.cons.inj (List.append_inj h hl).2).2⟩

theorem bech32Decode_eq_some_iff {s hrp : List Char} {data : List Nat} {spec : Encoding} :
    bech32Decode s = some (hrp, data, spec) ↔
      (∀ c ∈ s, 33 ≤ c.toNat ∧ c.toNat ≤ 126) ∧
      ¬(s.any isUpperAscii = true ∧ s.any isLowerAscii = true) ∧ s.length ≤ 90 ∧
      ∃ dp, s.map toLowerAscii = hrp ++ '1' :: dp ∧ '1' ∉ dp ∧ hrp ≠ [] ∧ 6 ≤ dp.length ∧
        (∀ c ∈ dp, c ∈ charset) ∧ verifyChecksum hrp (dp.map (charset.idxOf ·)) = some spec ∧
        data = dropLastN 6 (dp.map (charset.idxOf ·)) := by
  unfold bech32Decode
  simp only [Option.ite_none_left_eq_some]
  refine and_congr ?_ (and_congr (by rw [Bool.and_eq_true]) ?_)
  · simp only [List.any_eq_true, Bool.or_eq_true, decide_eq_true_eq, not_exists, not_and, not_or,
      Nat.not_lt]
  cases hr : rfindOne (s.map toLowerAscii) with
  | none =>
    refine iff_of_false (by simp) fun ⟨_, dp, hs, _⟩ => ?_
    exact rfindOne_eq_none.mp hr (hs ▸ by simp)
  | some pos =>
    -- the string is split at its LAST `1`
    obtain ⟨pre, dp, hs, hn, rfl⟩ := rfindOne_eq_some hr
    have hl : s.length = pre.length + (dp.length + 1) := by
      simpa using congrArg List.length hs
    have hdrop : (pre ++ '1' :: dp).drop (pre.length + 1) = dp := by
      rw [List.append_cons, List.drop_left' (by simp)]
    simp only [hs, hdrop, List.take_left' rfl, Option.ite_none_left_eq_some]
    rw [List.length_append, List.length_cons]
    constructor
    · rintro ⟨hlen, hall, hm⟩
      split at hm
      · cases hm
      next sp hv =>
      obtain ⟨rfl, rfl, rfl⟩ := hm
      exact ⟨by omega, dp, rfl, hn, fun e => by simp [e] at hlen, by omega, by simpa using hall, hv,
        rfl⟩
    · rintro ⟨h90, dp', he, hn', hne, h6, hall, hv, rfl⟩
      -- and that split is the only one whose second part has no `1`
      obtain ⟨rfl, rfl⟩ := append_one_inj he hn hn'
      have := List.length_pos_iff.mpr hne
      exact ⟨by omega, by simpa using hall, by rw [hv]⟩

end BtcHd.Bech32

namespace BtcHd.C11
open BtcHd Bech32

/-- the inputs for which a segwit address exists: witness version 0–16, program of 2–40 bytes
(20 or 32 for version 0), a non-empty prefix of printable ASCII without upper-case letters, and a
total length of at most 90 characters (prefix, separator, version symbol, program symbols, six
checksum symbols) -/
def Legal (hrp : List Char) (v : Nat) (prog : Bytes) : Prop :=
  v ≤ 16 ∧ 2 ≤ prog.length ∧ prog.length ≤ 40 ∧ (v = 0 → prog.length = 20 ∨ prog.length = 32) ∧
    hrp ≠ [] ∧ (∀ c ∈ hrp, 33 ≤ c.toNat ∧ c.toNat ≤ 126 ∧ isUpperAscii c = false) ∧
    hrp.length + 1 + (1 + (prog.length * 8 + 4) / 5 + 6) ≤ 90

instance (hrp : List Char) (v : Nat) (prog : Bytes) : Decidable (Legal hrp v prog) := by
  unfold Legal; infer_instance

/-- the checksum constant belonging to a witness version: Bech32 for 0, Bech32m otherwise -/
def specFor (v : Nat) : Encoding := if v = 0 then .bech32 else .bech32m

/-- the test of `decode`, as the source writes it -/
theorem eq_specFor_iff {v : Nat} {spec : Encoding} :
    spec = specFor v ↔ ¬((v = 0 ∧ spec ≠ .bech32) ∨ (v ≠ 0 ∧ spec ≠ .bech32m)) := by
  unfold specFor
  cases spec <;> by_cases e : v = 0 <;> simp [e]

end BtcHd.C11

namespace BtcHd.Bech32
open BtcHd Digits C11

theorem decode_eq_some_iff {hrp s : List Char} {v : Nat} {prog : List Nat} :
    decode hrp s = some (v, prog) ↔
      ∃ data spec, bech32Decode s = some (hrp, v :: data, spec) ∧
        convertbits data 5 8 false = some prog ∧ 2 ≤ prog.length ∧ prog.length ≤ 40 ∧ v ≤ 16 ∧
        (v = 0 → prog.length = 20 ∨ prog.length = 32) ∧ spec = specFor v := by
  unfold decode
  cases hb : bech32Decode s with
  | none => simp
  | some r =>
    obtain ⟨hrpgot, data, spec⟩ := r
    cases data with
    | nil => cases h : convertbits ([] : List Nat) 5 8 false <;> simp [h]
    | cons w rest =>
      cases hc : convertbits rest 5 8 false with
      | none => simp [hc]
      | some decoded =>
        simp only [List.drop_one, List.tail_cons, hc, Option.ite_none_left_eq_some, Option.some.injEq,
          Prod.mk.injEq, List.cons.injEq]
        constructor
        · rintro ⟨hh, hl, hv, h0, hs, rfl, rfl⟩
          exact ⟨rest, spec, ⟨by simpa using hh, ⟨rfl, rfl⟩, rfl⟩, hc, by omega, by omega, by omega,
            fun e => by omega, eq_specFor_iff.mpr hs⟩
        · rintro ⟨_, _, ⟨rfl, ⟨rfl, rfl⟩, rfl⟩, hc', h2, h40, h16, h0, hs⟩
          obtain rfl : decoded = prog := Option.some.inj (hc.symm.trans hc')
          exact ⟨by simp, by omega, by omega, by omega, eq_specFor_iff.mp hs, rfl, rfl⟩

theorem bech32Encode_of_lt {hrp : List Char} {data : List Nat} (spec : Encoding)
    (h : ∀ d ∈ data, d < 32) :
    bech32Encode hrp data spec =
      some (hrp ++ '1' :: (data ++ createChecksum hrp data spec).map chr) := by
  unfold bech32Encode
  rw [Basics.mapM_eq_some_map (g := chr) fun d hd =>
    charAt_of_lt (List.forall_mem_append.mpr ⟨h, createChecksum_lt hrp data spec⟩ d hd)]
  simp

theorem bech32Encode_of_ge {hrp : List Char} {data : List Nat} (spec : Encoding) {d : Nat}
    (hd : d ∈ data) (h : 32 ≤ d) : bech32Encode hrp data spec = none := by
  unfold bech32Encode
  rw [Basics.mapM_eq_none_iff.mpr ⟨d, List.mem_append_left _ hd, charAt_of_ge h⟩]
  rfl

/-- the `←` of `bech32Decode_eq_some_iff` on a lower-case string over the character set -/
theorem bech32Decode_symbols {hrp : List Char} {xs : List Nat} {spec : Encoding} (hne : hrp ≠ [])
    (hh : ∀ c ∈ hrp, 33 ≤ c.toNat ∧ c.toNat ≤ 126 ∧ isUpperAscii c = false)
    (hx : ∀ d ∈ xs, d < 32) (h6 : 6 ≤ xs.length) (h90 : hrp.length + 1 + xs.length ≤ 90)
    (hv : verifyChecksum hrp xs = some spec) :
    bech32Decode (hrp ++ '1' :: xs.map chr) = some (hrp, dropLastN 6 xs, spec) := by
  have hidx : (xs.map chr).map (charset.idxOf ·) = xs :=
    Basics.map_map_cancel fun d hd => idxOf_chr (hx d hd)
  have hc : ∀ c ∈ xs.map chr, c ∈ charset := List.forall_mem_map.mpr fun d hd => chr_mem (hx d hd)
  have hall : ∀ c ∈ hrp ++ '1' :: xs.map chr, 33 ≤ c.toNat ∧ c.toNat ≤ 126 ∧ isUpperAscii c = false :=
    List.forall_mem_append.mpr ⟨hh, List.forall_mem_cons.mpr ⟨by decide, fun c h =>
      have p := charset_props c (hc c h); ⟨p.2.1, p.2.2.1, p.1⟩⟩⟩
  refine bech32Decode_eq_some_iff.mpr ⟨fun c h => ⟨(hall c h).1, (hall c h).2.1⟩,
    fun ⟨hu, _⟩ => ?_, by simp; omega, _,
    map_toLowerAscii_eq_self_iff.mpr fun c h => (hall c h).2.2,
    fun h => (charset_props _ (hc _ h)).2.2.2 rfl, hne, by simpa using h6, hc, by rw [hidx, hv],
    by rw [hidx]⟩
  obtain ⟨c, hc, hcu⟩ := List.any_eq_true.mp hu
  rw [(hall c hc).2.2] at hcu
  cases hcu

theorem bech32Decode_addr {hrp : List Char} {v : Nat} {five : List Nat} (hne : hrp ≠ [])
    (hh : ∀ c ∈ hrp, 33 ≤ c.toNat ∧ c.toNat ≤ 126 ∧ isUpperAscii c = false)
    (hd : ∀ d ∈ v :: five, d < 32) (h90 : hrp.length + 1 + (1 + five.length + 6) ≤ 90) :
    bech32Decode (hrp ++ '1' :: ((v :: five) ++ createChecksum hrp (v :: five) (specFor v)).map chr)
      = some (hrp, v :: five, specFor v) := by
  rw [bech32Decode_symbols hne hh
      (List.forall_mem_append.mpr ⟨hd, createChecksum_lt hrp (v :: five) (specFor v)⟩)
      (by simp [createChecksum_length]) (by simp [createChecksum_length]; omega)
      (checksum_valid hrp _ _ hd),
    Basics.dropLastN_append _ (createChecksum_length ..)]

theorem decode_addr_iff {hrp : List Char} {v : Nat} {prog : Bytes} {five : List Nat}
    (hd : ∀ d ∈ v :: five, d < 32) (hlen : five.length = (prog.length * 8 + 4) / 5)
    (h4 : convertbits five 5 8 false = some (prog.map (·.toNat))) {r : Nat × List Nat} :
    decode hrp (hrp ++ '1' :: ((v :: five) ++ createChecksum hrp (v :: five) (specFor v)).map chr)
        = some r ↔ Legal hrp v prog ∧ r = (v, prog.map (·.toNat)) := by
  constructor
  · intro h
    obtain ⟨v', prog'⟩ := r
    obtain ⟨data, spec, hb', hc, h2, h40, h16, h0, -⟩ := decode_eq_some_iff.mp h
    -- the string starts with `hrp` and lower-cases to something starting with `hrp`
    obtain ⟨hP, -, h90, dp, hs, -, hne, -⟩ := bech32Decode_eq_some_iff.mp hb'
    rw [List.map_append] at hs
    have hh : ∀ c ∈ hrp, 33 ≤ c.toNat ∧ c.toNat ≤ 126 ∧ isUpperAscii c = false := fun c hc =>
      have hp := hP c (List.mem_append_left _ hc)
      ⟨hp.1, hp.2, map_toLowerAscii_eq_self_iff.mp (List.append_inj hs (by simp)).1 c hc⟩
    simp only [List.length_map, List.length_append, List.length_cons, createChecksum_length] at h90
    rw [bech32Decode_addr hne hh hd (by omega)] at hb'
    obtain ⟨-, ⟨rfl, rfl⟩, -⟩ := hb'
    obtain rfl := Option.some.inj (h4.symm.trans hc)
    rw [List.length_map] at h2 h40 h0
    exact ⟨⟨h16, h2, h40, h0, hne, hh, by omega⟩, rfl⟩
  · rintro ⟨⟨h16, h2, h40, h0, hne, hh, h90⟩, rfl⟩
    exact decode_eq_some_iff.mpr ⟨five, _, bech32Decode_addr hne hh hd (hlen ▸ h90), h4,
      by simpa using h2, by simpa using h40, h16, by simpa using h0, rfl⟩

/-- The program always regroups to symbols `five` that regroup back, and the string is always built when
`v < 32`; it is the final `decode` test of `encode` that turns the illegal inputs away
(`decode_addr_iff`). -/
theorem encode_eq_ite (hrp : List Char) (v : Nat) (prog : Bytes) :
    ∃ five, convertbits (prog.map (·.toNat)) 8 5 true = some five ∧ (∀ d ∈ five, d < 32) ∧
      five.length = (prog.length * 8 + 4) / 5 ∧
      convertbits five 5 8 false = some (prog.map (·.toNat)) ∧
      encode hrp v prog = if Legal hrp v prog then
        some (hrp ++ '1' :: ((v :: five) ++ createChecksum hrp (v :: five) (specFor v)).map chr)
        else none := by
  obtain ⟨five, h1, hlt, hlen, h4⟩ := convertbits_8_5_5_8 prog
  refine ⟨five, h1, hlt, hlen, h4, ?_⟩
  unfold encode
  simp only [h1]
  change (match bech32Encode hrp (v :: five) (specFor v) with | none => none | some ret => _) = _
  by_cases hv : v < 32
  · have hd : ∀ d ∈ v :: five, d < 32 := List.forall_mem_cons.mpr ⟨hv, hlt⟩
    rw [bech32Encode_of_lt _ hd]
    show (if (decode hrp _).isNone = true then none else some _) = _
    by_cases hl : Legal hrp v prog
    · rw [if_pos hl, (decode_addr_iff hd hlen h4).mpr ⟨hl, rfl⟩]
      rfl
    · rw [if_neg hl, if_pos]
      exact Option.isNone_iff_eq_none.mpr <| Option.eq_none_iff_forall_ne_some.mpr fun r hr =>
        hl ((decode_addr_iff hd hlen h4).mp hr).1
  · rw [bech32Encode_of_ge _ List.mem_cons_self (by omega), if_neg fun hl => hv (by have := hl.1; omega)]

theorem legal_of_encode_some {hrp : List Char} {v : Nat} {prog : Bytes} {s : List Char}
    (h : encode hrp v prog = some s) :
    Legal hrp v prog ∧ decode hrp s = some (v, prog.map (·.toNat)) ∧
      ∃ five, bech32Decode s = some (hrp, v :: five, specFor v) := by
  obtain ⟨five, -, hlt, hlen, h4, he⟩ := encode_eq_ite hrp v prog
  rw [he] at h
  obtain ⟨hl, hs⟩ := Option.ite_none_right_eq_some.mp h
  cases hs
  have hd : ∀ d ∈ v :: five, d < 32 := List.forall_mem_cons.mpr ⟨by have := hl.1; omega, hlt⟩
  have hdec := (decode_addr_iff hd hlen h4).mpr ⟨hl, rfl⟩
  obtain ⟨data, _, hb, -, -, -, -, -, rfl⟩ := decode_eq_some_iff.mp hdec
  exact ⟨hl, hdec, data, hb⟩

/-- 71 symbols at most: the version, `⌈8 · 40 / 5⌉ = 64` for the program, six for the checksum -/
theorem encode_some_symbols {hrp : List Char} {v : Nat} {prog : Bytes} {s : List Char}
    (h : encode hrp v prog = some s) :
    ∃ xs, s = hrp ++ '1' :: xs.map chr ∧ (∀ d ∈ xs, d < 32) ∧ xs.length ≤ 71 ∧
      verifyChecksum hrp xs = some (specFor v) ∧ s.map toLowerAscii = s := by
  obtain ⟨five, -, hlt, hlen, -, he⟩ := encode_eq_ite hrp v prog
  rw [he] at h
  obtain ⟨⟨h16, -, h40, -, -, hh, -⟩, hs⟩ := Option.ite_none_right_eq_some.mp h
  cases hs
  have hd : ∀ d ∈ v :: five, d < 32 := List.forall_mem_cons.mpr ⟨by omega, hlt⟩
  have hx := List.forall_mem_append.mpr ⟨hd, createChecksum_lt hrp (v :: five) (specFor v)⟩
  refine ⟨_, rfl, hx, ?_, checksum_valid hrp _ _ hd, map_toLowerAscii_eq_self_iff.mpr ?_⟩
  · rw [List.length_append, createChecksum_length, List.length_cons, hlen]; omega
  · exact List.forall_mem_append.mpr ⟨fun c hc => (hh c hc).2.2, List.forall_mem_cons.mpr ⟨by decide,
      List.forall_mem_map.mpr fun d hd => (charset_props _ (chr_mem (hx d hd))).1⟩⟩

theorem decode_some_symbols {hrp s : List Char} {v : Nat} {prog : List Nat}
    (h : decode hrp s = some (v, prog)) :
    ∃ ys, s.map toLowerAscii = hrp ++ '1' :: ys.map chr ∧ (∀ d ∈ ys, d < 32) ∧
      verifyChecksum hrp ys = some (specFor v) := by
  obtain ⟨data, spec, hb, -, -, -, -, -, rfl⟩ := decode_eq_some_iff.mp h
  obtain ⟨-, -, -, dp, ht, -, -, -, hall, hv, -⟩ := bech32Decode_eq_some_iff.mp hb
  refine ⟨dp.map (charset.idxOf ·), ?_, List.forall_mem_map.mpr fun c hc => idxOf_lt (hall c hc), hv⟩
  rw [ht, Basics.map_map_cancel fun c hc => chr_idxOf (hall c hc)]

end BtcHd.Bech32
