/-
A toy primitive bundle on which every BIP85 derivation succeeds: group order 7 and an
"HMAC" that always returns `IL = IR = 1`, so the scalars along a five-level path are
1, 2, 3, 4, 5, 6.  Used only as a non-vacuity witness for C12 and C03.
-/
import BtcHd.Lemmas.ToyCurve

namespace BtcHd.Toy
open BtcHd BeFixed

def curve7 : Curve Nat :=
  { curve with n := 7, mulGen := fun k => k % 7, add := fun a b => (a + b) % 7 }

/-- the constant 64-byte "HMAC" output: left half = right half = 1 -/
def hm7 : Bytes := List.replicate 31 0 ++ [1] ++ List.replicate 31 0 ++ [1]

def prims7 : Prims Nat := { prims with hmac512 := fun _ _ => hm7, curve := curve7 }

theorem hash256_length7 (x : Bytes) : (prims7.hash256 x).length = 32 := by
  simp [Prims.hash256, prims7, prims]

theorem laws7 : CurveLaws curve7 where
  n_pos := by decide
  n_lt := by decide
  sec_len := laws.sec_len
  parse_sec := laws.parse_sec
  sec_parse := laws.sec_parse
  parse_notInf := laws.parse_notInf
  mulGen_notInf := by
    intro k h0 hk
    have hk7 : k < 7 := hk
    simp only [curve7, curve, decide_eq_true_eq, not_or, Nat.not_le]
    omega
  sec_prefix := laws.sec_prefix

end BtcHd.Toy
