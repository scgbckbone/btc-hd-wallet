/-
From the two kernel-checked facts (`Bch/Distance.lean`, `Bch/Cross.lean`: independence over
GF(32) of the checksum vectors of any four, resp. of `D` and any three, symbol positions) to
statements about syndromes of arbitrary error patterns of weight ≤ 4 (distance) and ≤ 3
(Bech32 ↔ Bech32m cross-over).
-/
import BtcHd.Lemmas.Bch
import BtcHd.Bch.Distance
import BtcHd.Bch.Cross

namespace BtcHd.Bch
open BtcHd GF2 Bech32

/-- what a passed check says about syndromes: no non-zero multiple `x` of `w` cancels the syndrome
(shifted to position `s`) of a pattern with at most three non-zero symbols -/
theorem check_sound {w s n : Nat} {r : List Nat} (hw : w < 2 ^ 30)
    (hchk : check w (table n (Tpow s 1)) = true) (hn : r.length ≤ n)
    (hr : ∀ v ∈ r, v < 32) (h3 : weight r ≤ 3) {x : Nat} (hx : Span (orbit Mx w) x)
    (h : x ^^^ Tpow s (synR r) = 0) : x = 0 := by
  have ht : ∀ q ∈ table n (Tpow s 1), q < 2 ^ 30 := fun q hq => table_lt hq (Tpow_lt s (by decide))
  -- `x` plus the syndrome is a sum of multiples of `w` and at most three table entries `l`,
  obtain ⟨l, xs, hl, hlen, hxs, hsum⟩ := Tpow_synR s hn hr
  -- which form a free sequence
  have hfree := subQ_sound Mx_lt 3 (B := []) trivial nofun hw ht
    (by rw [List.map_id'' (f := red []) fun _ => rfl]; exact hchk) l hl (hlen ▸ h3)
  refine Free.indep field32 hfree nofun (fun u hu => ?_) (.cons hx hxs)
    (by rw [List.foldr_cons, ← hsum, h]; exact (Span.isSub _).zero) x (List.mem_cons_self ..)
  exact (List.mem_cons.1 hu).elim (· ▸ hw) fun hu => ht u (hl.subset hu)

/-- one to four non-zero symbols among 71 never have syndrome 0.  Leading zero symbols are
stripped by injectivity of `T`; then the first non-zero symbol sits at position 0, which is
the case the kernel checked. -/
theorem synR_ne_zero : ∀ {r : List Nat}, r.length ≤ 71 → (∀ v ∈ r, v < 32) → 1 ≤ weight r →
    weight r ≤ 4 → synR r ≠ 0
  | [], _, _, h1, _ => by simp [weight] at h1
  | v :: r, hlen, hr, h1, h4 => by
    have hr' : ∀ u ∈ r, u < 32 := fun u hu => hr u (List.mem_cons_of_mem _ hu)
    have hv := hr v (List.mem_cons_self ..)
    rw [show synR (v :: r) = T (synR r) ^^^ v from rfl]
    by_cases h0 : v = 0
    · subst h0
      rw [Nat.xor_zero]
      have hw : weight (0 :: r) = weight r := by simp [weight]
      exact fun h => synR_ne_zero (Nat.le_of_succ_le hlen) hr' (hw ▸ h1) (hw ▸ h4)
        (T_ker (synR_lt hr') h)
    · have hw : weight (v :: r) = weight r + 1 := by simp [weight, h0]
      -- `v = v • 1`
      exact fun h => h0 (check_sound (w := 1) (s := 1) (n := 70) (by decide) distance_check
        (Nat.le_of_succ_le_succ hlen) hr' (by omega) ⟨bits5 v, rfl, comb_units_bits5 v hv⟩
        (Nat.xor_comm .. ▸ h))

theorem synR_ne_D {r : List Nat} (hlen : r.length ≤ 71) (hr : ∀ v ∈ r, v < 32)
    (h3 : weight r ≤ 3) : synR r ≠ D := fun h =>
  absurd (check_sound (w := D) (s := 0) (by decide) cross_check hlen hr h3
    (Span.mem (List.mem_cons_self ..)) (h ▸ Nat.xor_self D)) (by decide)

end BtcHd.Bch
