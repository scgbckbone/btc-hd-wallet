/-
GF(2) linear algebra on `Nat` bit-vectors (addition is `^^^`): XOR-combinations and spans;
echelon bases in list form (`red`, `insAll`), which `Lemmas/GF2Packed.lean` computes on packed
vectors; and, for a linear map `M` that makes the space a vector space over the field GF(2)[M]
of 32 elements, sequences of vectors that are free over that field (`Free`, `Free.indep`).
Core Lean only.
-/
namespace BtcHd.GF2

theorem xor_xor_self_left (a b : Nat) : a ^^^ (a ^^^ b) = b := by
  rw [← Nat.xor_assoc, Nat.xor_self, Nat.zero_xor]

theorem xor_xor_xor_comm (a b c d : Nat) : a ^^^ b ^^^ (c ^^^ d) = a ^^^ c ^^^ (b ^^^ d) := by
  ac_rfl

theorem eq_xor_of_xor_eq {a b c : Nat} (h : a ^^^ b = c) : b = a ^^^ c := by
  rw [← h, xor_xor_self_left]

theorem split_bits (w n : Nat) : w = w % 2 ^ n ^^^ (w >>> n <<< n) := by
  apply Nat.eq_of_testBit_eq
  intro i
  rw [Nat.testBit_xor, Nat.testBit_shiftLeft, Nat.testBit_shiftRight, Nat.testBit_mod_two_pow]
  by_cases hi : i < n
  · simp [hi, Nat.not_le.2 hi]
  · simp [hi, Nat.not_lt.1 hi]

theorem map_zero_of_xor {f : Nat → Nat} (hx : ∀ a b, f (a ^^^ b) = f a ^^^ f b) : f 0 = 0 := by
  have := hx 0 0
  rw [Nat.xor_self] at this
  rw [eq_xor_of_xor_eq this.symm, Nat.xor_self]

theorem foldr_xor_eq_zero : ∀ {xs : List Nat}, (∀ x ∈ xs, x = 0) → xs.foldr (· ^^^ ·) 0 = 0
  | [], _ => rfl
  | x :: xs, h => by
    rw [List.foldr_cons, h x (List.mem_cons_self ..),
      foldr_xor_eq_zero fun y hy => h y (List.mem_cons_of_mem _ hy), Nat.xor_self]

theorem linear_ext {f g : Nat → Nat} (fx : ∀ a b, f (a ^^^ b) = f a ^^^ f b)
    (gx : ∀ a b, g (a ^^^ b) = g a ^^^ g b) :
    ∀ (n : Nat), (∀ i < n, f (2 ^ i) = g (2 ^ i)) → ∀ w < 2 ^ n, f w = g w
  | 0, _, w, hw => by rw [show w = 0 by omega, map_zero_of_xor fx, map_zero_of_xor gx]
  | n + 1, h, w, hw => by
    rw [split_bits w n, fx, gx, linear_ext fx gx n (fun i hi => h i (by omega)) _
      (Nat.mod_lt _ (Nat.two_pow_pos n))]
    -- the bit above is 0 or 1
    have hb : w >>> n < 2 := by
      rw [Nat.shiftRight_eq_div_pow, Nat.div_lt_iff_lt_mul (Nat.two_pow_pos n), Nat.mul_comm,
        ← Nat.pow_succ]
      exact hw
    match w >>> n, hb with
    | 0, _ => rw [Nat.zero_shiftLeft, map_zero_of_xor fx, map_zero_of_xor gx]
    | 1, _ => rw [Nat.one_shiftLeft, h n (Nat.lt_succ_self n)]

/-- XOR-combination of the vectors `ws` with coefficients `cs` -/
def comb : List Nat → List Bool → Nat
  | w :: ws, c :: cs => (bif c then w else 0) ^^^ comb ws cs
  | _, _ => 0

theorem comb_nil_left (cs : List Bool) : comb [] cs = 0 := by
  unfold comb; rfl

theorem comb_nil_right (ws : List Nat) : comb ws [] = 0 := by
  cases ws <;> rfl

@[simp] theorem comb_cons (w : Nat) (ws : List Nat) (c : Bool) (cs : List Bool) :
    comb (w :: ws) (c :: cs) = (bif c then w else 0) ^^^ comb ws cs := rfl

theorem comb_all_false : ∀ (ws : List Nat) (cs : List Bool), (∀ c ∈ cs, c = false) → comb ws cs = 0
  | [], cs, _ => comb_nil_left cs
  | _ :: _, [], _ => rfl
  | w :: ws, c :: cs, h => by
    rw [comb_cons, h c (List.mem_cons_self ..),
      comb_all_false ws cs fun d hd => h d (List.mem_cons_of_mem _ hd), cond_false, Nat.xor_self]

theorem comb_xor : ∀ (ws : List Nat) (cs ds : List Bool), cs.length = ws.length →
    ds.length = ws.length → comb ws (List.zipWith Bool.xor cs ds) = comb ws cs ^^^ comb ws ds
  | [], cs, ds, _, _ => by simp [comb_nil_left]
  | w :: ws, c :: cs, d :: ds, h1, h2 => by
    rw [List.zipWith_cons_cons, comb_cons, comb_cons, comb_cons,
      comb_xor ws cs ds (Nat.succ.inj h1) (Nat.succ.inj h2), xor_xor_xor_comm]
    cases c <;> cases d <;> simp

theorem comb_zipWith_xor : ∀ {us vs : List Nat} (cs : List Bool), us.length = vs.length →
    comb (List.zipWith (· ^^^ ·) us vs) cs = comb us cs ^^^ comb vs cs
  | [], [], _, _ => by simp [comb_nil_left]
  | _ :: _, _ :: _, [], _ => by simp [comb_nil_right]
  | u :: us, v :: vs, c :: cs, h => by
    rw [List.zipWith_cons_cons, comb_cons, comb_cons, comb_cons,
      comb_zipWith_xor cs (Nat.succ.inj h), xor_xor_xor_comm]
    cases c <;> simp

theorem comb_testBit_false {p : Nat} : ∀ (ws : List Nat) (cs : List Bool),
    (∀ w ∈ ws, w.testBit p = false) → (comb ws cs).testBit p = false
  | [], cs, _ => by simp [comb_nil_left]
  | _ :: _, [], _ => by simp [comb_nil_right]
  | w :: ws, c :: cs, h => by
    have hw := h w (List.mem_cons_self ..)
    have ih := comb_testBit_false ws cs (fun u hu => h u (List.mem_cons_of_mem _ hu))
    cases c <;> simp [hw, ih]

theorem map_comb {f : Nat → Nat} (hx : ∀ a b, f (a ^^^ b) = f a ^^^ f b) :
    ∀ (ws : List Nat) (cs : List Bool), f (comb ws cs) = comb (ws.map f) cs
  | [], cs => by simp [comb_nil_left, map_zero_of_xor hx]
  | _ :: _, [] => by simp [comb_nil_right, map_zero_of_xor hx]
  | w :: ws, c :: cs => by
    simp only [comb_cons, hx, map_comb hx ws cs]
    cases c <;> simp [map_zero_of_xor hx]

/-- a GF(2)-subspace: contains 0 and is closed under `^^^` -/
structure IsSub (P : Nat → Prop) : Prop where
  zero : P 0
  xor : ∀ {a b}, P a → P b → P (a ^^^ b)

theorem IsSub.of_xor {P : Nat → Prop} (hP : IsSub P) {a b : Nat} (ha : P a) (hab : P (a ^^^ b)) :
    P b := by
  have := hP.xor ha hab
  rwa [xor_xor_self_left] at this

/-- `x` is an XOR-combination of `ws`, with exactly one coefficient per vector (so that the
coefficient lists of two combinations can be added) -/
def Span (ws : List Nat) (x : Nat) : Prop := ∃ cs : List Bool, cs.length = ws.length ∧ comb ws cs = x

theorem Span.isSub (ws : List Nat) : IsSub (Span ws) where
  zero := ⟨List.replicate ws.length false, by simp,
    comb_all_false ws _ fun _ hc => (List.mem_replicate.1 hc).2⟩
  xor := by
    rintro _ _ ⟨cs, hc, rfl⟩ ⟨ds, hd, rfl⟩
    exact ⟨List.zipWith Bool.xor cs ds, by simp [hc, hd], comb_xor ws cs ds hc hd⟩

theorem Span.mem : ∀ {ws : List Nat} {w : Nat}, w ∈ ws → Span ws w
  | u :: ws, w, h => by
    rcases List.mem_cons.1 h with rfl | h
    · exact ⟨true :: List.replicate ws.length false, by simp,
        by simp [comb_all_false ws _ fun _ hc => (List.mem_replicate.1 hc).2]⟩
    · obtain ⟨cs, hc, rfl⟩ := Span.mem h
      exact ⟨false :: cs, by simp [hc], by simp⟩

theorem Span.le {P : Nat → Prop} (hP : IsSub P) : ∀ {ws : List Nat}, (∀ w ∈ ws, P w) → ∀ {x : Nat},
    Span ws x → P x
  | [], _, _, ⟨cs, _, hx⟩ => hx ▸ comb_nil_left cs ▸ hP.zero
  | w :: ws, h, _, ⟨c :: cs, hc, hx⟩ => by
    have ih := Span.le hP (fun u hu => h u (List.mem_cons_of_mem _ hu)) ⟨cs, Nat.succ.inj hc, rfl⟩
    subst hx
    cases c
    · simpa using ih
    · exact hP.xor (h w (List.mem_cons_self ..)) ih

theorem Span.mono {ws us : List Nat} (h : ∀ w ∈ ws, Span us w) {x : Nat} : Span ws x → Span us x :=
  Span.le (Span.isSub us) h

theorem Span.append_left {ws : List Nat} {x : Nat} (us : List Nat) : Span ws x → Span (ws ++ us) x :=
  Span.mono fun _ h => Span.mem (List.mem_append_left _ h)

theorem Span.append_right {us : List Nat} {x : Nat} (ws : List Nat) : Span us x → Span (ws ++ us) x :=
  Span.mono fun _ h => Span.mem (List.mem_append_right _ h)

theorem Span.nil {x : Nat} : Span [] x ↔ x = 0 :=
  ⟨fun ⟨_, _, h⟩ => by rw [← h, comb_nil_left], fun h => h ▸ (Span.isSub []).zero⟩

/-! ### echelon bases of `(pivot, vector)` pairs, newest first

This is the list form of what `Lemmas/GF2Packed.lean` computes on packed vectors. -/

def red : List (Nat × Nat) → Nat → Nat
  | [], w => w
  | pv :: older, w => red older w ^^^ (bif (red older w).testBit pv.1 then pv.2 else 0)

/-- The position of the lowest set bit of `v < 2 ^ n`.  `gcd v (2 ^ n)` is that bit, and it is
what the check computes: the kernel evaluates `Nat.gcd` with GMP but unfolds `Nat.log2` step by
step. -/
def lowBit (n v : Nat) : Nat := Nat.log2 (Nat.gcd v (2 ^ n))

/-- insert the vectors one by one, each reduced by the basis so far, with its lowest set bit as
pivot; `none` if one reduces to zero -/
def insAll (n : Nat) : List (Nat × Nat) → List Nat → Option (List (Nat × Nat))
  | B, [] => some B
  | B, w :: ws =>
    match red B w with
    | 0 => none
    | v + 1 => insAll n ((lowBit n (v + 1), v + 1) :: B) ws

abbrev vecs (B : List (Nat × Nat)) : List Nat := B.map (·.2)

def Clear (B : List (Nat × Nat)) (w : Nat) : Prop := ∀ q ∈ B, w.testBit q.1 = false

/-- every basis vector has its pivot bit set and the pivot bits of all OLDER vectors clear -/
def Good : List (Nat × Nat) → Prop
  | [] => True
  | pv :: older => pv.2.testBit pv.1 = true ∧ Clear older pv.2 ∧ Good older

theorem red_lt {n : Nat} {B : List (Nat × Nat)} (hB : ∀ pv ∈ B, pv.2 < 2 ^ n) {x : Nat}
    (hx : x < 2 ^ n) : red B x < 2 ^ n := by
  induction B with
  | nil => exact hx
  | cons pv B ih =>
    have := ih fun q hq => hB q (List.mem_cons_of_mem _ hq)
    rw [red]
    cases (red B x).testBit pv.1
    · simpa using this
    · exact Nat.xor_lt_two_pow this (hB pv (List.mem_cons_self ..))

theorem span_xor_red : ∀ (B : List (Nat × Nat)) (w : Nat), Span (vecs B) (w ^^^ red B w)
  | [], w => by rw [red, Nat.xor_self]; exact (Span.isSub _).zero
  | pv :: older, w => by
    rw [red, ← Nat.xor_assoc]
    refine (Span.isSub _).xor (Span.append_right [pv.2] (span_xor_red older w)) ?_
    cases (red older w).testBit pv.1
    · exact (Span.isSub _).zero
    · exact Span.mem (List.mem_cons_self ..)

theorem Good.clear_red : ∀ {B : List (Nat × Nat)}, Good B → ∀ w, Clear B (red B w)
  | [], _, _, q, hq => by simp at hq
  | pv :: older, ⟨hp, hold, hg⟩, w, q, hq => by
    rw [red]
    rcases List.mem_cons.1 hq with rfl | h
    · cases hx : (red older w).testBit q.1 <;> simp [hx, hp]
    · have h1 := hg.clear_red w q h
      have h2 := hold q h
      cases (red older w).testBit pv.1 <;> simp [h1, h2]

theorem Good.eq_zero : ∀ {B : List (Nat × Nat)} {x : Nat}, Good B → Span (vecs B) x → Clear B x → x = 0
  | [], _, _, h, _ => Span.nil.1 h
  | pv :: older, x, ⟨hp, hold, hg⟩, ⟨c :: cs, hc, hx⟩, hcl => by
    rw [vecs, List.map_cons, comb_cons] at hx
    -- `pv.2` does not touch the older pivots, so the older part alone has them clear
    have hy : comb (vecs older) cs = 0 := by
      refine hg.eq_zero ⟨cs, by simpa using hc, rfl⟩ fun q hq => ?_
      have := hcl q (List.mem_cons_of_mem _ hq)
      rw [← hx, Nat.testBit_xor] at this
      cases c
      · simpa using this
      · simpa [hold q hq] using this
    have := hcl pv (List.mem_cons_self ..)
    rw [← hx, hy, Nat.xor_zero] at this ⊢
    cases c
    · rfl
    · rw [cond_true, hp] at this; cases this

theorem Good.red_eq_zero_iff {B : List (Nat × Nat)} (hg : Good B) {w : Nat} :
    red B w = 0 ↔ Span (vecs B) w :=
  ⟨fun h => by have := span_xor_red B w; rwa [h, Nat.xor_zero] at this,
    fun hw => hg.eq_zero ((Span.isSub _).of_xor hw (span_xor_red B w)) (hg.clear_red w)⟩

/-- halving `v` and `2 ^ n` until `v` is odd -/
theorem gcd_two_pow : ∀ (n : Nat) {v : Nat}, v ≠ 0 → v < 2 ^ n →
    ∃ p, Nat.gcd v (2 ^ n) = 2 ^ p ∧ v.testBit p = true
  | 0, _, h0, h => absurd (Nat.lt_one_iff.1 h) h0
  | n + 1, v, h0, h => by
    rcases Nat.mod_two_eq_zero_or_one v with h2 | h2
    · obtain ⟨p, hp, hb⟩ := gcd_two_pow n (v := v / 2) (by omega) (by omega)
      refine ⟨p + 1, ?_, (Nat.testBit_succ v p).trans hb⟩
      rw [← Nat.div_add_mod v 2, h2, Nat.add_zero, Nat.pow_succ, Nat.mul_comm (2 ^ n),
        Nat.gcd_mul_left, hp, Nat.pow_succ, Nat.mul_comm]
    · refine ⟨0, Nat.gcd_pow_right_of_gcd_eq_one ?_, by rw [Nat.testBit_zero, h2]; rfl⟩
      rw [Nat.gcd_comm, Nat.gcd_rec, h2]
      rfl

theorem lowBit_spec {n v : Nat} (h0 : v ≠ 0) (h : v < 2 ^ n) :
    Nat.gcd v (2 ^ n) = 2 ^ lowBit n v ∧ v.testBit (lowBit n v) = true ∧ lowBit n v < n := by
  obtain ⟨p, hp, hb⟩ := gcd_two_pow n h0 h
  rw [lowBit, hp, Nat.log2_two_pow]
  exact ⟨rfl, hb, (Nat.pow_lt_pow_iff_right (by decide)).1
    (Nat.lt_of_le_of_lt (Nat.ge_two_pow_of_testBit hb) h)⟩

theorem insAll_cons {n : Nat} {B B' : List (Nat × Nat)} {w : Nat} {ws : List Nat}
    (h : insAll n B (w :: ws) = some B') :
    red B w ≠ 0 ∧ insAll n ((lowBit n (red B w), red B w) :: B) ws = some B' := by
  unfold insAll at h
  split at h
  · cases h
  · next v hv => rw [hv]; exact ⟨Nat.succ_ne_zero v, h⟩

theorem insAll_spec {n : Nat} : ∀ {xs : List Nat} {B B' : List (Nat × Nat)}, Good B →
    (∀ pv ∈ B, pv.2 < 2 ^ n) → (∀ x ∈ xs, x < 2 ^ n) → insAll n B xs = some B' →
    Good B' ∧ (∀ pv ∈ B', pv.2 < 2 ^ n) ∧ ∀ w ∈ vecs B ++ xs, Span (vecs B') w
  | [], B, B', hg, hB, _, h => by
    cases Option.some.inj h
    exact ⟨hg, hB, fun w hw => Span.mem (by simpa using hw)⟩
  | x :: xs, B, B', hg, hB, hxs, h => by
    obtain ⟨h0, h⟩ := insAll_cons h
    have hlt := red_lt hB (hxs x (List.mem_cons_self ..))
    obtain ⟨hg', hB', hs⟩ := insAll_spec (B := (lowBit n (red B x), red B x) :: B)
      ⟨(lowBit_spec h0 hlt).2.1, hg.clear_red x, hg⟩
      (List.forall_mem_cons.2 ⟨hlt, hB⟩) (fun y hy => hxs y (List.mem_cons_of_mem _ hy)) h
    have hsB : ∀ w ∈ vecs B, Span (vecs B') w := fun w hw => hs w (by simp [hw])
    refine ⟨hg', hB', fun w hw => ?_⟩
    rcases List.mem_append.1 hw with hw | hw
    · exact hsB w hw
    · rcases List.mem_cons.1 hw with rfl | hw
      · -- `w` is `red B w` plus a combination of `B`
        exact (Span.isSub _).of_xor (hs (red B w) (by simp))
          (Nat.xor_comm _ _ ▸ Span.mono hsB (span_xor_red B w))
      · exact hs w (by simp [hw])

/-! ### vector spaces over the field generated by a linear map `M`

`orbit M w = [w, M w, …, M⁴ w]` spans the line through `w` over the field GF(2)[M] when `M`
satisfies `Field32`.  `Free M S l`: each vector of `l` lies outside the span of `S` and of the
orbits of its predecessors.  Then the lines through the vectors of `l` are independent
(`Free.indep`): the last multiple `x` must vanish because otherwise `u = x⁻¹ • x` would lie in
the span of the rest.  So to extend a free sequence by `u` it is enough to know that `u` ITSELF
is outside the span: nothing has to be checked for `M u, …, M⁴ u`. -/

section Orbit
variable (M : Nat → Nat)

def orbit (w : Nat) : List Nat := [w, M w, M (M w), M (M (M w)), M (M (M (M w)))]

/-- on the vectors satisfying `C`, the polynomials in `M` of degree `< 5` form a field:
`M⁵` is one of them, and every non-zero vector of the line through `w` generates that line -/
structure Field32 (C : Nat → Prop) : Prop where
  map_xor : ∀ a b, M (a ^^^ b) = M a ^^^ M b
  pow5 : ∀ {w}, C w → Span (orbit M w) (M (M (M (M (M w)))))
  inv : ∀ {w x}, C w → Span (orbit M w) x → x ≠ 0 → Span (orbit M x) w

/-- `xs` holds one multiple of each vector of `l` -/
inductive Multiples : List Nat → List Nat → Prop
  | nil : Multiples [] []
  | cons {u x : Nat} {l xs : List Nat} :
    Span (orbit M u) x → Multiples l xs → Multiples (u :: l) (x :: xs)

def Free (S : List Nat) : List Nat → Prop
  | [] => True
  | u :: l => ¬ Span S u ∧ Free (S ++ orbit M u) l

variable {M}

theorem comb_orbit_xor (hx : ∀ a b, M (a ^^^ b) = M a ^^^ M b) (d : List Bool) (a b : Nat) :
    comb (orbit M (a ^^^ b)) d = comb (orbit M a) d ^^^ comb (orbit M b) d := by
  simp only [orbit, hx]
  exact comb_zipWith_xor (us := [a, M a, M (M a), M (M (M a)), M (M (M (M a)))])
    (vs := [b, M b, M (M b), M (M (M b)), M (M (M (M b)))]) d rfl

theorem Free.anti : ∀ {l S S'}, (∀ v, Span S v → Span S' v) → Free M S' l → Free M S l
  | [], _, _, _, _ => trivial
  | u :: _, _, _, h, ⟨hu, hl⟩ =>
    ⟨fun hs => hu (h u hs), Free.anti (fun _ => Span.mono fun w hw => (List.mem_append.1 hw).elim
      (fun hw => (h w (Span.mem hw)).append_left _) fun hw => (Span.mem hw).append_right _) hl⟩

theorem forall_mem_orbit {P : Nat → Prop} {u : Nat} :
    (∀ w ∈ orbit M u, P w) ↔
      P u ∧ P (M u) ∧ P (M (M u)) ∧ P (M (M (M u))) ∧ P (M (M (M (M u)))) := by
  simp [orbit]

theorem Span.orbit_le {P : Nat → Prop} (hP : IsSub P) (hPM : ∀ x, P x → P (M x)) {u x : Nat}
    (hu : P u) : Span (orbit M u) x → P x :=
  Span.le hP (forall_mem_orbit.2 ⟨hu, hPM _ hu, hPM _ (hPM _ hu), hPM _ (hPM _ (hPM _ hu)),
    hPM _ (hPM _ (hPM _ (hPM _ hu)))⟩)

variable {C : Nat → Prop} (hM : Field32 M C)
include hM

theorem Field32.map_orbit {u : Nat} (hu : C u) : ∀ w ∈ orbit M u, Span (orbit M u) (M w) :=
  forall_mem_orbit.2 ⟨Span.mem (by simp [orbit]), Span.mem (by simp [orbit]),
    Span.mem (by simp [orbit]), Span.mem (by simp [orbit]), hM.pow5 hu⟩

theorem Field32.span_map {S : List Nat} (hS : ∀ w ∈ S, Span S (M w)) {x : Nat} :
    Span S x → Span S (M x) :=
  Span.le (P := fun x => Span S (M x))
    ⟨by rw [map_zero_of_xor hM.map_xor]; exact (Span.isSub S).zero,
      fun ha hb => by rw [hM.map_xor]; exact (Span.isSub S).xor ha hb⟩ hS

theorem Free.indep : ∀ {l S xs : List Nat}, Free M S l → (∀ w ∈ S, Span S (M w)) → (∀ u ∈ l, C u) →
    Multiples M l xs → Span S (xs.foldr (· ^^^ ·) 0) → ∀ x ∈ xs, x = 0
  | [], _, _, _, _, _, .nil, _ => nofun
  | u :: l, S, _, ⟨hu, hl⟩, hS, hC, .cons (x := x) hx hxs, hsum => by
    have hCu := hC u (List.mem_cons_self ..)
    -- the span of `S` and the orbit of `u` is again closed under `M`
    have hS' : ∀ w ∈ S ++ orbit M u, Span (S ++ orbit M u) (M w) := fun w hw =>
      (List.mem_append.1 hw).elim (fun hw => (hS w hw).append_left _)
        fun hw => (hM.map_orbit hCu w hw).append_right S
    have ih := Free.indep hl hS' (fun v hv => hC v (List.mem_cons_of_mem _ hv)) hxs
      ((Span.isSub _).of_xor (hx.append_right S) (hsum.append_left _))
    -- so `x` alone is in the span of `S`; were it not zero, `u = x⁻¹ • x` would be there too
    rw [List.foldr_cons, foldr_xor_eq_zero ih, Nat.xor_zero] at hsum
    exact List.forall_mem_cons.2 ⟨Decidable.byContradiction fun h0 => hu (Span.orbit_le
      (Span.isSub S) (fun _ => hM.span_map hS) hsum (hM.inv hCu hx h0)), ih⟩

end Orbit

end BtcHd.GF2
