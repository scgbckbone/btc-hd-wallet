/-
Extended-key serialisation (C07, C09, C14): well-formed nodes and their public view (`neuter`), the
78 bytes `_serialize` writes (`layout`), the node `_parse` reads back from them (`parsedOf`), and how
the two compose; what `from_extended_key` makes of a serialisation.  Everything about a round trip is
a fact about `parsedOf`.
-/
import BtcHd.Lemmas.Bip32
import BtcHd.Lemmas.CurveLaws
import BtcHd.Model.Wallet
import BtcHd.Props.C10

open BtcHd BtcHd.Keys BtcHd.BeFixed BtcHd.Bip32

variable {Pt : Type}

namespace BtcHd.Bip32

/-- A node whose fields have the sizes BIP32 prescribes and whose key is valid for its class:
a private node stores `ser256(k)` or `00‖ser256(k)` with `1 ≤ k < n`; a public node stores
33 bytes that the curve library parses. -/
structure Node.WF (P : Prims Pt) (nd : Node) : Prop where
  chain_len : nd.chainCode.length = 32
  fp_len : (parentFingerprint nd).length = 4
  depth_lt : nd.depth < 256
  index_lt : nd.index < 2 ^ 32
  key_prv : nd.isPrv = true → ∃ k, 1 ≤ k ∧ k < P.curve.n ∧
    (nd.key = beFixed 32 k ∨ nd.key = 0 :: beFixed 32 k)
  key_pub : nd.isPrv = false → nd.key.length = 33 ∧ ∃ pt, P.curve.parse nd.key = some pt

/-- BIP32 validity of the header: a node at depth 0 with child number 0 (a master key) has
parent fingerprint `00000000`.  Every node of depth ≥ 1 and every depth-0 master satisfies it;
it excludes the headers that the `is_master` zeroing in `_serialize` would rewrite (exactly those, for a node
without parent object: `fpField_eq_iff`). -/
def BIP32valid (nd : Node) : Prop :=
  nd.depth = 0 → nd.index = 0 → parentFingerprint nd = [0, 0, 0, 0]

/-- the fingerprint field as `_serialize` writes it -/
def fpField (nd : Node) : Bytes :=
  if isMaster nd then [0, 0, 0, 0] else parentFingerprint nd

/-- the public view of a node: same header and chain code, key replaced by the compressed
public key (`none` when the node has no valid key) -/
def neuter (P : Prims Pt) (nd : Node) : Option Node :=
  (pubKey P nd).map fun K => { nd with isPrv := false, key := P.curve.sec true K }

theorem neuter_eq_some {P : Prims Pt} {nd : Node} {K : Pt} (hK : pubKey P nd = some K) :
    neuter P nd = some { nd with isPrv := false, key := P.curve.sec true K } := by
  rw [neuter, hK]; rfl

/-- the 78 bytes `_serialize` produces -/
def layout (nd : Node) (key : Bytes) (v : Nat) : Bytes :=
  beFixed 4 v ++ (beFixed 1 nd.depth ++ (fpField nd ++
    (beFixed 4 nd.index ++ (nd.chainCode ++ key))))

/-- what `_parse` builds from `layout nd key v`: a parsed node has no parent object (`hasParent := false`) and
stores the four fingerprint bytes it read -/
def parsedOf (isPrv t : Bool) (nd : Node) (key : Bytes) (v : Nat) : Node :=
  { isPrv := isPrv, key := key, chainCode := nd.chainCode, depth := nd.depth, index := nd.index,
    testnet := t, hasParent := false, parentFp := some (fpField nd), path := [],
    parsedVersion := some v }

end BtcHd.Bip32

namespace BtcHd.XKey

theorem isMaster_iff {nd : Node} :
    isMaster nd = true ↔ nd.depth = 0 ∧ nd.index = 0 ∧ nd.hasParent = false := by
  simp [isMaster]

theorem BIP32valid_of_depth_pos {nd : Node} (h : 0 < nd.depth) : BIP32valid nd := by
  intro h0; omega

theorem BIP32valid_of_index_pos {nd : Node} (h : 0 < nd.index) : BIP32valid nd := by
  intro _ h0; omega

theorem masterKey_shape {P : Prims Pt} {seed : Bytes} {t : Bool} {nd : Node}
    (h : masterKey P seed t = some nd) :
    isMaster nd = true ∧ BIP32valid nd ∧ nd.isPrv = true ∧ nd.testnet = t := by
  obtain ⟨_, rfl⟩ := masterKey_eq_some.mp h
  exact ⟨isMaster_iff.mpr ⟨rfl, rfl, rfl⟩, fun _ _ => rfl, rfl, rfl⟩

/-- `_serialize` rewrites the fingerprint of no node but a master-shaped one that stores a
non-zero fingerprint -/
theorem fpField_eq_iff {nd : Node} : fpField nd = parentFingerprint nd ↔
    (isMaster nd = true → parentFingerprint nd = [0, 0, 0, 0]) := by
  unfold fpField
  split <;> simp [*, eq_comm]

theorem fpField_eq_of_valid {nd : Node} (h : BIP32valid nd) :
    fpField nd = parentFingerprint nd :=
  fpField_eq_iff.mpr fun hm => h (isMaster_iff.mp hm).1 (isMaster_iff.mp hm).2.1

theorem fpField_length {nd : Node} (h : (parentFingerprint nd).length = 4) :
    (fpField nd).length = 4 := by
  unfold fpField; split <;> simp [h]

theorem prvKey_wf {P : Prims Pt} {nd : Node} (hn : P.curve.n ≤ 2 ^ 256) (hwf : nd.WF P)
    (hprv : nd.isPrv = true) : prvKey P nd = some (beToNat nd.key) := by
  obtain ⟨k, h1, h2, hk⟩ := hwf.key_prv hprv
  have := prvKey_of_key h1 h2 hn hk
  rw [this, prvKey_eq_beToNat this]

theorem pubKey_wf {P : Prims Pt} {nd : Node} (hC : CurveLaws P.curve) (hwf : nd.WF P) :
    ∃ K, pubKey P nd = some K ∧ (P.curve.sec true K).length = 33 ∧ ¬ P.curve.isInf K ∧
      (nd.isPrv = false → P.curve.sec true K = nd.key) := by
  cases hprv : nd.isPrv with
  | true =>
    have hk := prvKey_wf (Nat.le_of_lt hC.n_lt) hwf hprv
    have hinf := hC.mulGen_notInf _ (prvKey_range hk).1 (prvKey_range hk).2
    exact ⟨_, pubKey_of_prvKey hprv hk, hC.sec_len _ hinf, hinf, nofun⟩
  | false =>
    obtain ⟨hl, pt, hpt⟩ := hwf.key_pub hprv
    have hs := hC.sec_parse _ _ hl hpt
    exact ⟨pt, (pubKey_of_pub hprv).trans hpt, hs ▸ hl, hC.parse_notInf _ _ hpt, fun _ => hs⟩

theorem prvKeyField_length (k : Nat) : (0 :: beFixed 32 k).length = 33 :=
  congrArg (· + 1) (beFixed_length 32 k)

theorem beToNat_prvKeyField {P : Prims Pt} {nd : Node} {k : Nat} (hk : prvKey P nd = some k) :
    beToNat (0 :: beFixed 32 k) = beToNat nd.key := by
  rw [beToNat_zero_cons, beToNat_beFixed (prvKey_lt hk), prvKey_eq_beToNat hk]

theorem serializeWith_eq {nd : Node} (key : Bytes) {v : Nat} (hd : nd.depth < 256)
    (hi : nd.index < 2 ^ 32) (hv : v < 2 ^ 32) :
    serializeWith nd key v = some (layout nd key v) := by
  unfold serializeWith
  rw [toBytesBE_eq_some (by omega), toBytesBE_eq_some (by omega), toBytesBE_eq_some (by omega)]
  simp [layout, fpField]

theorem serializeWith_some {nd : Node} {key ser : Bytes} {v : Nat}
    (h : serializeWith nd key v = some ser) :
    nd.depth < 256 ∧ nd.index < 2 ^ 32 ∧ v < 2 ^ 32 := by
  simp only [serializeWith, toBytesBE, Option.bind_eq_some_iff, Option.map_eq_some_iff,
    Option.ite_none_right_eq_some] at h
  omega

theorem serializeWith_layout {nd : Node} {key ser : Bytes} {v : Nat}
    (h : serializeWith nd key v = some ser) : ser = layout nd key v := by
  obtain ⟨hd, hi, hv⟩ := serializeWith_some h
  rw [serializeWith_eq key hd hi hv] at h
  exact (Option.some.inj h).symm

theorem serializeWith_congr {a b : Node} (hd : a.depth = b.depth) (hi : a.index = b.index)
    (hf : fpField a = fpField b) (hc : a.chainCode = b.chainCode) (key : Bytes) (v : Nat) :
    serializeWith a key v = serializeWith b key v := by
  unfold serializeWith
  rw [show (if isMaster a then [0, 0, 0, 0] else parentFingerprint a) = fpField b from hf, hd, hi, hc]
  rfl

theorem serializePrivate_eq_some {P : Prims Pt} {nd : Node} {version : Option Nat} {ser : Bytes} :
    serializePrivate P nd version = some ser ↔ nd.isPrv = true ∧ ∃ k, prvKey P nd = some k ∧
      serializeWith nd (0 :: beFixed 32 k) (version.getD (prvVersion nd)) = some ser := by
  simp [serializePrivate, privBytes, Option.bind_eq_some_iff]

theorem serializePublic_eq_some {P : Prims Pt} {nd : Node} {version : Option Nat} {ser : Bytes} :
    serializePublic P nd version = some ser ↔ ∃ K, pubKey P nd = some K ∧
      serializeWith nd (P.curve.sec true K) (version.getD (pubVersion nd)) = some ser := by
  simp [serializePublic, Option.bind_eq_some_iff]

theorem prvVersion_lt (nd : Node) : prvVersion nd < 2 ^ 32 := by
  unfold prvVersion; split <;> decide

theorem pubVersion_lt (nd : Node) : pubVersion nd < 2 ^ 32 := by
  unfold pubVersion; split <;> decide

theorem parse_prvVersion (nd : Node) : Path.Version.parse (prvVersion nd) = some ⟨0, 0, nd.testnet⟩ := by
  unfold prvVersion
  cases nd.testnet <;> decide

theorem parse_pubVersion (nd : Node) : Path.Version.parse (pubVersion nd) = some ⟨1, 0, nd.testnet⟩ := by
  unfold pubVersion
  cases nd.testnet <;> decide

theorem layout_length {nd : Node} {key : Bytes} (v : Nat) (hc : nd.chainCode.length = 32)
    (hf : (parentFingerprint nd).length = 4) (hk : key.length = 33) :
    (layout nd key v).length = 78 := by
  simp [layout, beFixed_length, fpField_length hf, hc, hk]

theorem layout_take4 (nd : Node) (key : Bytes) (v : Nat) :
    (layout nd key v).take 4 = beFixed 4 v :=
  List.take_left' (beFixed_length 4 v)

theorem serializeWith_version {nd : Node} {key ser : Bytes} {v : Nat}
    (h : serializeWith nd key v = some ser) : beToNat (ser.take 4) = v := by
  rw [serializeWith_layout h, layout_take4, beToNat_beFixed (serializeWith_some h).2.2]

theorem layout_master_zero {nd : Node} (hm : isMaster nd = true) (key : Bytes) (v : Nat) :
    ((layout nd key v).drop 4).take 9 = List.replicate 9 0 := by
  unfold layout
  rw [List.drop_left' (beFixed_length 4 v), fpField, if_pos hm, (isMaster_iff.mp hm).1,
    (isMaster_iff.mp hm).2.1]
  rfl

theorem parseBytes_serializeWith (isPrv t : Bool) {nd : Node} {key ser : Bytes} {v : Nat}
    (hc : nd.chainCode.length = 32) (hf : (parentFingerprint nd).length = 4)
    (hk : key.length = 33) (h : serializeWith nd key v = some ser) :
    parseBytes isPrv t ser = parsedOf isPrv t nd key v := by
  obtain ⟨hd, hi, hv⟩ := serializeWith_some h
  rw [serializeWith_layout h]
  unfold parseBytes layout parsedOf
  simp only [List.take_left' (beFixed_length _ _), List.drop_left' (beFixed_length _ _),
    List.take_left' (fpField_length hf), List.drop_left' (fpField_length hf), List.take_left' hc,
    List.drop_left' hc, List.take_of_length_le (Nat.le_of_eq hk)]
  rw [beToNat_beFixed (by omega), beToNat_beFixed (by omega), beToNat_beFixed (by omega)]

theorem parentFingerprint_parsedOf (isPrv t : Bool) {nd : Node} (key : Bytes) (v : Nat)
    (hf : (parentFingerprint nd).length = 4) :
    parentFingerprint (parsedOf isPrv t nd key v) = fpField nd :=
  parentFingerprint_some rfl (fpField_length hf)

theorem BIP32valid_parsedOf (isPrv t : Bool) {nd : Node} (key : Bytes) (v : Nat)
    (hf : (parentFingerprint nd).length = 4) (hvalid : BIP32valid nd) :
    BIP32valid (parsedOf isPrv t nd key v) := by
  intro h0 h1
  rw [parentFingerprint_parsedOf isPrv t key v hf, fpField_eq_of_valid hvalid]
  exact hvalid h0 h1

theorem serializeWith_parsedOf (isPrv t : Bool) {nd : Node} (key key' : Bytes) (v v' : Nat)
    (hf : (parentFingerprint nd).length = 4) (hvalid : BIP32valid nd) :
    serializeWith (parsedOf isPrv t nd key v) key' v' = serializeWith nd key' v' := by
  refine serializeWith_congr (a := parsedOf isPrv t nd key v) (b := nd) rfl rfl ?_ rfl key' v'
  rw [fpField_eq_of_valid (BIP32valid_parsedOf isPrv t key v hf hvalid),
    parentFingerprint_parsedOf isPrv t key v hf]

/-- the parsed node differs from the original at most in its fingerprint -/
theorem nodeEq_parsedOf_iff {nd : Node} {b : Bool} {key : Bytes} (v : Nat)
    (hf : (parentFingerprint nd).length = 4) (hb : nd.isPrv = b)
    (hkey : beToNat key = beToNat nd.key) :
    nodeEq (parsedOf b nd.testnet nd key v) nd = true ↔
      (isMaster nd = true → parentFingerprint nd = [0, 0, 0, 0]) := by
  unfold nodeEq
  rw [parentFingerprint_parsedOf b nd.testnet key v hf, ← fpField_eq_iff]
  simp [parsedOf, hkey, hb]

theorem nodeEq_parsedOf {nd : Node} {b : Bool} {key : Bytes} (v : Nat)
    (hf : (parentFingerprint nd).length = 4) (hvalid : BIP32valid nd) (hb : nd.isPrv = b)
    (hkey : beToNat key = beToNat nd.key) :
    nodeEq (parsedOf b nd.testnet nd key v) nd = true :=
  (nodeEq_parsedOf_iff v hf hb hkey).mpr (fpField_eq_iff.mp (fpField_eq_of_valid hvalid))

theorem WF_parsedOf {P : Prims Pt} {nd : Node} (hwf : nd.WF P) (isPrv t : Bool) {key : Bytes}
    (v : Nat)
    (hprv : isPrv = true → ∃ k, 1 ≤ k ∧ k < P.curve.n ∧
      (key = beFixed 32 k ∨ key = 0 :: beFixed 32 k))
    (hpub : isPrv = false → key.length = 33 ∧ ∃ pt, P.curve.parse key = some pt) :
    (parsedOf isPrv t nd key v).WF P where
  chain_len := hwf.chain_len
  fp_len := by
    rw [parentFingerprint_parsedOf isPrv t _ v hwf.fp_len]; exact fpField_length hwf.fp_len
  depth_lt := hwf.depth_lt
  index_lt := hwf.index_lt
  key_prv := hprv
  key_pub := hpub

/-- `from_extended_key` parses twice (a probe for the version, then the node); it comes to decoding once and
reading class and network off the version bytes -/
theorem fromExtendedKey_eq (P : Prims Pt) (s : List Char) :
    Wallet.fromExtendedKey P s = (Base58.decodeCheck P.hash256 s).bind fun payload =>
      (Path.Version.parse (beToNat (payload.take 4))).map fun v =>
        ⟨parseBytes (v.keyType = 0) v.testnet payload, v.testnet, none, none⟩ := by
  unfold Wallet.fromExtendedKey parseStr
  cases Base58.decodeCheck P.hash256 s with
  | none => rfl
  | some payload =>
    show (Path.Version.parse (beToNat (payload.take 4))).bind _ =
      (Path.Version.parse (beToNat (payload.take 4))).map _
    cases Path.Version.parse (beToNat (payload.take 4)) <;> rfl

theorem fromExtendedKey_of_version (P : Prims Pt) (hlen : ∀ x, 4 ≤ (P.hash256 x).length)
    {payload : Bytes} {v : Nat} (hv : beToNat (payload.take 4) = v)
    {ver : Path.Version} (hver : Path.Version.parse v = some ver) :
    Wallet.fromExtendedKey P (Base58.encodeCheck P.hash256 payload) =
      some ⟨parseBytes (decide (ver.keyType = 0)) ver.testnet payload, ver.testnet, none, none⟩ := by
  rw [fromExtendedKey_eq, C10.decodeCheck_encodeCheck _ hlen, Option.bind_some, hv, hver]
  rfl

end BtcHd.XKey
