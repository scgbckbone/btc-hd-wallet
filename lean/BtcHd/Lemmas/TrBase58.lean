/-
For `Props/TrBase58.lean`: the loops of the machine-translated `encode_base58` / `decode_base58`
(`Generated/Code.lean`) are those of the model, and the `hex()` / `bytes.fromhex` route of
`decode_base58` is `numBytes`.
-/
import BtcHd.Lemmas.Translated
import BtcHd.Lemmas.Base58

namespace BtcHd.Translated
open BtcHd Digits Basics

/-- `for a in l: if a == z: n += 1 else: break` counts the leading `z`s -/
theorem forIn_lead {m : Type → Type} [Monad m] [LawfulMonad m] {α : Type} [DecidableEq α] (z : α) (l : List α) (k : Nat) :
    forIn (m := m) l k (fun a n => if a = z then pure (ForInStep.yield (n + 1)) else pure (ForInStep.done n)) =
      pure (k + lead z l) := by
  induction l generalizing k with
  | nil => rfl
  | cons a l ih =>
    rw [List.forIn_cons, lead]
    by_cases ha : a = z
    · simp only [ha, if_true, pure_bind, ih]
      congr 1; omega
    · simp [ha]

theorem alphaAt_eq {i : Nat} (h : i < 58) : Generated.base58Alphabet[i]! = Base58.alphaAt i := by
  have h' : i < Generated.base58Alphabet.length := Base58.alphabet_length ▸ h
  rw [getElem!_pos Generated.base58Alphabet i h', Base58.alphaAt, Base58.alphabet, getD_eq_getElem h']

/-- the divmod loop with enough fuel is the model's `encBody` -/
theorem while_encBody (fuel num : Nat) (acc : List Char) (h : num < fuel) :
    whileFuel (fun s : Nat × List Char => s.1 > 0)
      (fun s => (s.1 / 58, [Generated.base58Alphabet[s.1 % 58]!] ++ s.2)) fuel (num, acc)
      = (0, Base58.encBody num acc) := by
  induction fuel generalizing num acc with
  | zero => omega
  | succ f ih =>
    rw [whileFuel, Base58.encBody]
    by_cases h0 : num = 0
    · subst h0; rfl
    · have hpos : num > 0 := Nat.pos_of_ne_zero h0
      rw [if_pos hpos, dif_neg h0, ih _ _ (by have := Nat.div_lt_self hpos (by decide : 1 < 58); omega),
        alphaAt_eq (Nat.mod_lt _ (by decide))]
      rfl

/-- the accumulation loop of `decode_base58`, with its `raise ValueError` -/
theorem forIn_decNum (s : List Char) (acc : Nat) :
    forIn (m := Option) s acc (fun c a =>
      if c ∉ Generated.base58Alphabet then
        (none : Option PUnit) >>= fun _ => pure (ForInStep.yield (a * 58 + Generated.base58Alphabet.idxOf c))
      else pure (ForInStep.yield (a * 58 + Generated.base58Alphabet.idxOf c))) = Base58.decNum s acc := by
  simp only [Option.pure_def, Option.bind_eq_bind, Option.bind_none, forIn_raise_option]
  rw [Base58.decNum_eq, horner, List.foldl_map, Base58.alphabet]
  by_cases h : ∀ c ∈ s, c ∈ Generated.base58Alphabet
  · rw [if_pos h, if_neg (by simpa using h)]
  · rw [if_neg h, if_pos (by simpa using h)]

/-- Python's `h = hex(num)[2:]; h = '0' + h if len(h) % 2 else h` -/
def hexPad (n : Nat) : List Char :=
  if (Py.hexStr n).length % 2 ≠ 0 then [Char.ofNat 48] ++ Py.hexStr n else Py.hexStr n

theorem hexPad_step (n : Nat) :
    hexPad n = (if n < 256 then [] else hexPad (n / 256)) ++ [hexDigit (n % 256 / 16), hexDigit (n % 16)] := by
  have hd : ∀ d < 16, Nat.digitChar d = hexDigit d := by decide
  have h16 : n % 16 < 16 := Nat.mod_lt _ (by decide)
  unfold hexPad Py.hexStr
  by_cases h : n < 256
  · rw [if_pos h, Nat.mod_eq_of_lt h, List.nil_append]
    by_cases hn : n < 16
    · rw [Nat.toDigits_of_lt_base hn, hd n hn, Nat.div_eq_of_lt hn, Nat.mod_eq_of_lt hn]
      rfl
    · have hq : n / 16 < 16 := (Nat.div_lt_iff_lt_mul (by decide)).mpr h
      rw [Nat.toDigits_of_base_le (by decide) (Nat.le_of_not_lt hn), Nat.toDigits_of_lt_base hq, hd _ hq,
        hd _ h16]
      simp
  · have h256 : 16 * 16 ≤ n := Nat.le_of_not_lt h
    have e : Nat.toDigits 16 n =
        Nat.toDigits 16 (n / 256) ++ [hexDigit (n % 256 / 16), hexDigit (n % 16)] := by
      rw [Nat.toDigits_of_base_le (by decide) (Nat.le_trans (by decide) h256),
        Nat.toDigits_of_base_le (by decide) ((Nat.le_div_iff_mul_le (by decide)).mpr h256),
        Nat.div_div_eq_div_mul, hd _ (Nat.mod_lt _ (by decide)), hd _ h16,
        ← Nat.mod_mul_right_div_self n 16 16, List.append_assoc]
      rfl
    rw [if_neg h, e, List.length_append, List.length_cons, List.length_singleton, Nat.add_mod_right]
    split <;> simp

theorem numBytes_step (n : Nat) :
    Base58.numBytes n = (if n < 256 then [] else Base58.numBytes (n / 256)) ++ [UInt8.ofNat (n % 256)] := by
  unfold Base58.numBytes
  by_cases h0 : n = 0
  · subst h0; rfl
  · rw [if_neg h0, Base58.beMinimal, dif_neg h0]
    split
    · next h => rw [Nat.div_eq_of_lt h, Base58.beMinimal, dif_pos rfl]
    · next h => rw [if_neg (by omega)]

theorem hexPad_eq (n : Nat) : hexPad n = toHex (Base58.numBytes n) := by
  induction n using Nat.strongRecOn with
  | _ n ih =>
    have : [hexDigit (n % 256 / 16), hexDigit (n % 16)] = toHex [UInt8.ofNat (n % 256)] := by
      rw [toHex, UInt8.toNat_ofNat_of_lt' (Nat.mod_lt n (by decide)), Nat.mod_mod_of_dvd n (by decide : 16 ∣ 256)]
      rfl
    rw [hexPad_step, numBytes_step, toHex_append, this]
    split
    · rfl
    · rw [ih _ (by omega)]

theorem fromHex_hexPad (n : Nat) : fromHex (hexPad n) = some (Base58.numBytes n) := by
  rw [hexPad_eq, fromHex_toHex]

end BtcHd.Translated
