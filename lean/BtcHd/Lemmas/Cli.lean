/-
Helper lemmas for C20: `pyInt`, the CLI validators, a declarative grammar for
`parseGlobals` with its invariants, `parseArgs`, `run` as a pipeline, and last the paranoia view of
one account block in which `C20.paranoia_never_fails` is stated.  What the constructors
build and what an account block of the report contains is in `Lemmas/Wallet.lean`, the filter on
such blocks in `Lemmas/Paranoia.lean`.
-/
import BtcHd.Lemmas.Paranoia
import BtcHd.Model.Cli

namespace BtcHd.Cli
open BtcHd Text Wallet Bip32

variable {Pt : Type}

/-- The flag of `pyInt.ok` says whether the previous character was a digit; it is returned at the end of the input,
so an empty `d` needs it to be set, and after one digit it is. -/
theorem ok_of_digits {d : List Char} (h : ∀ c ∈ d, c.isDigit = true) (b : Bool)
    (hb : d = [] → b = true) : pyInt.ok d b = true := by
  induction d generalizing b with
  | nil => exact hb rfl
  | cons c cs ih =>
    unfold pyInt.ok
    rw [if_pos (h c List.mem_cons_self)]
    exact ih (fun x hx => h x (List.mem_cons_of_mem _ hx)) true fun _ => rfl

theorem filter_underscore_of_isDec {d : List Char} (h : IsDec d) : d.filter (· ≠ '_') = d :=
  List.filter_eq_self.mpr fun _ hc => decide_eq_true (ne_of_mem_of_not_mem hc (h.not_mem rfl))

theorem pyInt_of_isDec {d : List Char} (h : IsDec d) : pyInt d = some (decVal d : Int) := by
  unfold pyInt
  rw [h.strip]
  dsimp only
  split
  · exact absurd List.mem_cons_self (h.not_mem rfl)
  · exact absurd List.mem_cons_self (h.not_mem rfl)
  · simp only [ok_of_digits h.2 false (absurd · h.1), filter_underscore_of_isDec h, if_true,
      Bool.false_eq_true, if_false]

theorem pyInt_neg_of_isDec {d : List Char} (h : IsDec d) :
    pyInt ('-' :: d) = some (- (decVal d : Int)) := by
  have hs : strip ('-' :: d) = '-' :: d :=
    strip_of_all fun c hc => by
      rcases List.mem_cons.mp hc with rfl | hc
      · rfl
      · exact isSpace_of_isDigit (h.2 c hc)
  unfold pyInt
  rw [hs]
  simp only [ok_of_digits h.2 false (absurd · h.1), filter_underscore_of_isDec h, if_true]

/-- core's `Option.ite_none_right_eq_some` with the value on the right: the shape of a validator that returns its
argument when a test passes -/
theorem ite_some_none_eq_some {α : Type} {c : Prop} [Decidable c] {a b : α} :
    (if c then some a else none) = some b ↔ c ∧ b = a := by
  rw [Option.ite_none_right_eq_some, Option.some.injEq, eq_comm]

theorem valueInInterval_eq_some {v : List Char} {max n : Nat} :
    valueInInterval v max = some n ↔ n < max ∧ pyInt v = some (n : Int) := by
  unfold valueInInterval
  cases pyInt v with
  | none => simp
  | some z =>
    simp only [Option.bind_some, Option.ite_none_right_eq_some, Option.some.injEq]
    omega

theorem pyInt_natToDec (n : Nat) : pyInt (natToDec n) = some (n : Int) := by
  rw [pyInt_of_isDec (isDec_natToDec n), decVal_natToDec]

theorem pyInt_neg_natToDec (n : Nat) : pyInt ('-' :: natToDec (n + 1)) = some (-((n + 1 : Nat) : Int)) := by
  rw [pyInt_neg_of_isDec (isDec_natToDec _), decVal_natToDec]

theorem valueInInterval_natToDec {max n : Nat} (h : n < max) :
    valueInInterval (natToDec n) max = some n :=
  valueInInterval_eq_some.mpr ⟨h, pyInt_natToDec n⟩

theorem valueInInterval_neg (max n : Nat) :
    valueInInterval ('-' :: natToDec (n + 1)) max = none := by
  unfold valueInInterval
  rw [pyInt_neg_natToDec, Option.bind_some, if_neg (by omega)]

-- results of `parseArgs` are compared by `decide` in the examples of `Props/C20.lean`
deriving instance DecidableEq for Globals
deriving instance DecidableEq for Cmd

/-- `GParse fs g argv g' rest`: reading global options from `argv` starting with the
settings `g` ends with the settings `g'` at `rest` (empty, or starting with a sub-command) -/
inductive GParse (fs : FsClass) : Globals → List (List Char) → Globals → List (List Char) → Prop
  | done (g : Globals) : GParse fs g [] g []
  | sub (g : Globals) (t : List Char) (rest : List (List Char)) (ht : t ∈ subcommands) :
      GParse fs g (t :: rest) g (t :: rest)
  | file (g : Globals) (t v : List Char) (rest : List (List Char)) (g' : Globals)
      (r : List (List Char)) (ht : t = "-f".toList ∨ t = "--file".toList)
      (hv : isValueTok v = true) (hf : fileArg fs = true)
      (h : GParse fs { g with file := true } rest g' r) : GParse fs g (t :: v :: rest) g' r
  | testnet (g : Globals) (rest : List (List Char)) (g' : Globals) (r : List (List Char))
      (h : GParse fs { g with testnet := true } rest g' r) :
      GParse fs g ("--testnet".toList :: rest) g' r
  | paranoia (g : Globals) (rest : List (List Char)) (g' : Globals) (r : List (List Char))
      (h : GParse fs { g with paranoia := true } rest g' r) :
      GParse fs g ("--paranoia".toList :: rest) g' r
  | account (g : Globals) (v : List Char) (n : Nat) (rest : List (List Char)) (g' : Globals)
      (r : List (List Char)) (hv : isValueTok v = true) (hn : accountIndex v = some n)
      (h : GParse fs { g with account := n } rest g' r) :
      GParse fs g ("--account".toList :: v :: rest) g' r
  | interval (g : Globals) (x y : List Char) (a b : Nat) (rest : List (List Char)) (g' : Globals)
      (r : List (List Char)) (hx : isValueTok x = true) (hy : isValueTok y = true)
      (ha : addressIndex x = some a) (hb : addressIndex y = some b)
      (h : GParse fs { g with a := a, b := b } rest g' r) :
      GParse fs g ("--interval".toList :: x :: y :: rest) g' r

theorem parseGlobals_sound {fs : FsClass} {fuel : Nat} {g g' : Globals}
    {argv rest : List (List Char)} (h : parseGlobals fs fuel g argv = some (g', rest)) :
    GParse fs g argv g' rest := by
  -- cases of `parseGlobals`: 2 end of input, 3 `-f/--file`, 6 `--testnet`, 7 `--paranoia`, 8 `--account`,
  -- 11 `--interval`, 14 sub-command; the others return `none`
  fun_induction parseGlobals fs fuel g argv
  case case2 => cases h; exact .done _
  case case3 ht v rest' hc ih => exact .file _ _ _ _ _ _ ht hc.1 hc.2 (ih h)
  case case6 ih => exact .testnet _ _ _ _ (ih h)
  case case7 ih => exact .paranoia _ _ _ _ (ih h)
  case case8 v rest' hv _ _ _ ih =>
    obtain ⟨n, hn, h⟩ := Option.bind_eq_some_iff.mp h
    exact .account _ _ _ _ _ _ hv hn (ih n h)
  case case11 x y rest' hv _ _ _ _ ih =>
    obtain ⟨a, ha, h⟩ := Option.bind_eq_some_iff.mp h
    obtain ⟨b, hb, h⟩ := Option.bind_eq_some_iff.mp h
    exact .interval _ _ _ _ _ _ _ _ hv.1 hv.2 ha hb (ih a b h)
  case case14 hs => cases h; exact .sub _ _ _ hs
  all_goals cases h

/-- `parseArgs` supplies the fuel `argv.length + 1` -/
theorem parseGlobals_complete {fs : FsClass} {g g' : Globals} {argv rest : List (List Char)}
    (h : GParse fs g argv g' rest) {fuel : Nat} (hfuel : argv.length < fuel) :
    parseGlobals fs fuel g argv = some (g', rest) := by
  induction h generalizing fuel
  all_goals
    obtain ⟨fuel, rfl⟩ := Nat.exists_eq_add_one_of_ne_zero (Nat.ne_zero_of_lt hfuel)
    unfold parseGlobals
  case done => rfl
  case sub t _ ht =>
    have : ∀ t ∈ subcommands, ¬ (t = "-f".toList ∨ t = "--file".toList) ∧ t ≠ "--testnet".toList ∧
        t ≠ "--paranoia".toList ∧ t ≠ "--account".toList ∧ t ≠ "--interval".toList := by
      decide +kernel
    obtain ⟨h1, h2, h3, h4, h5⟩ := this t ht
    rw [if_neg h1, if_neg h2, if_neg h3, if_neg h4, if_neg h5, if_pos ht]
  case file ht hv hf _ ih =>
    rw [if_pos ht]
    simp only
    rw [if_pos ⟨hv, hf⟩]
    exact ih (Nat.lt_of_succ_lt (Nat.lt_of_succ_lt_succ hfuel))
  case testnet ih =>
    rw [if_neg (by decide +kernel), if_pos rfl]
    exact ih (Nat.lt_of_succ_lt_succ hfuel)
  case paranoia ih =>
    rw [if_neg (by decide +kernel), if_neg (by decide +kernel), if_pos rfl]
    exact ih (Nat.lt_of_succ_lt_succ hfuel)
  case account hv hn _ ih =>
    rw [if_neg (by decide +kernel), if_neg (by decide +kernel), if_neg (by decide +kernel),
      if_pos rfl]
    simp only
    rw [if_pos hv, hn, Option.bind_some]
    exact ih (Nat.lt_of_succ_lt (Nat.lt_of_succ_lt_succ hfuel))
  case interval hx hy ha hb _ ih =>
    rw [if_neg (by decide +kernel), if_neg (by decide +kernel), if_neg (by decide +kernel),
      if_neg (by decide +kernel), if_pos rfl]
    simp only
    rw [if_pos ⟨hx, hy⟩, ha, Option.bind_some, hb, Option.bind_some]
    exact ih (Nat.lt_of_succ_lt (Nat.lt_of_succ_lt (Nat.lt_of_succ_lt_succ hfuel)))

theorem GParse.rest_shape {fs : FsClass} {g g' : Globals} {argv rest : List (List Char)}
    (h : GParse fs g argv g' rest) : rest = [] ∨ ∃ c args, rest = c :: args ∧ c ∈ subcommands := by
  induction h
  case done => exact .inl rfl
  case sub t rest ht => exact .inr ⟨t, rest, rfl, ht⟩
  all_goals assumption

theorem GParse.file_inv {fs : FsClass} {g g' : Globals} {argv rest : List (List Char)}
    (h : GParse fs g argv g' rest) (hf : g'.file = true) : g.file = true ∨ fs = .absent := by
  induction h
  case done | sub => exact .inl hf
  case file hfs _ _ => exact .inr (of_decide_eq_true hfs)
  case testnet ih | paranoia ih | account ih | interval ih => exact ih hf

def isFileOpt (t : List Char) : Bool := t = "-f".toList || t = "--file".toList

theorem isFileOpt_iff {t : List Char} : isFileOpt t = true ↔ t = "-f".toList ∨ t = "--file".toList := by
  unfold isFileOpt
  rw [Bool.or_eq_true, decide_eq_true_eq, decide_eq_true_eq]

theorem any_isFileOpt {l : List (List Char)} :
    l.any isFileOpt = true ↔ ∃ t ∈ l, t = "-f".toList ∨ t = "--file".toList := by
  simp only [List.any_eq_true, isFileOpt_iff]

theorem isFileOpt_of_isValueTok {v : List Char} (hv : isValueTok v = true) : isFileOpt v = false := by
  rw [Bool.eq_false_iff, ne_eq, isFileOpt_iff]
  rintro (rfl | rfl) <;> revert hv <;> decide +kernel

theorem isFileOpt_option :
    isFileOpt "--testnet".toList = false ∧ isFileOpt "--paranoia".toList = false ∧
      isFileOpt "--account".toList = false ∧ isFileOpt "--interval".toList = false ∧
      isFileOpt "--password".toList = false ∧ isFileOpt "--mnemonic-len".toList = false := by
  decide +kernel

theorem isFileOpt_subcommand {t : List Char} (h : t ∈ subcommands) : isFileOpt t = false := by
  revert t; decide +kernel

/-- the `file` flag of the result says exactly whether `-f` / `--file` occurs among the consumed
tokens -/
theorem GParse.file_eq {fs : FsClass} {g g' : Globals} {argv rest : List (List Char)}
    (h : GParse fs g argv g' rest) :
    (g'.file || rest.any isFileOpt) = (g.file || argv.any isFileOpt) := by
  obtain ⟨kTestnet, kParanoia, kAccount, kInterval, _⟩ := isFileOpt_option
  induction h
  case done | sub => rfl
  case file ht _ _ _ ih =>
    rw [ih, List.any_cons, isFileOpt_iff.mpr ht, Bool.true_or, Bool.true_or, Bool.or_true]
  case testnet ih => rw [ih, List.any_cons, kTestnet, Bool.false_or]
  case paranoia ih => rw [ih, List.any_cons, kParanoia, Bool.false_or]
  case account hv _ _ ih =>
    rw [ih, List.any_cons, List.any_cons, kAccount, isFileOpt_of_isValueTok hv, Bool.false_or, Bool.false_or]
  case interval hx hy _ _ _ ih =>
    rw [ih, List.any_cons, List.any_cons, List.any_cons, kInterval, isFileOpt_of_isValueTok hx,
      isFileOpt_of_isValueTok hy, Bool.false_or, Bool.false_or, Bool.false_or]

/-- the ranges `account_index` / `address_index` enforce -/
def InRange (g : Globals) : Prop := g.account < 2 ^ 31 - 1 ∧ g.a < 2 ^ 32 - 1 ∧ g.b < 2 ^ 32 - 1

theorem GParse.inRange {fs : FsClass} {g g' : Globals} {argv rest : List (List Char)}
    (h : GParse fs g argv g' rest) (hg : InRange g) : InRange g' := by
  induction h
  case done | sub => exact hg
  case file ih | testnet ih | paranoia ih => exact ih hg
  case account hn _ ih => exact ih ⟨(valueInInterval_eq_some.mp hn).1, hg.2⟩
  case interval ha hb _ ih =>
    exact ih ⟨hg.1, (valueInInterval_eq_some.mp ha).1, (valueInInterval_eq_some.mp hb).1⟩

/-- the sub-command part of `parseArgs` -/
def parseCmd (c : List Char) (args : List (List Char)) : Option Cmd :=
  let fuel := args.length + 1
  if c = "new".toList then
    (parseSub true true false fuel {} args).map fun s => .new s.password s.mnemonicLen
  else if c = "from-master-xprv".toList then
    (parseSub false false true fuel {} args).bind fun s =>
      (s.positional.bind extendedKeyArg).map fun k => .fromXprv k
  else if c = "from-mnemonic".toList then
    (parseSub true false true fuel {} args).bind fun s =>
      (s.positional.bind mnemonicArg).map fun m => .fromMnemonic m s.password
  else if c = "from-bip39-seed".toList then
    (parseSub false false true fuel {} args).bind fun s =>
      (s.positional.bind seedArg).map fun sd => .fromSeed sd
  else if c = "from-entropy-hex".toList then
    (parseSub true false true fuel {} args).bind fun s =>
      (s.positional.bind entropyArg).map fun e => .fromEntropy e s.password
  else none

theorem parseArgs_eq (fs : FsClass) (argv : List (List Char)) :
    parseArgs fs argv =
      (parseGlobals fs (argv.length + 1) {} argv).bind fun gr =>
        match gr.2 with
        | [] => some (gr.1, none)
        | c :: args => (parseCmd c args).map fun cmd => (gr.1, some cmd) := by
  unfold parseArgs
  congr 1
  funext ⟨g, rest⟩
  cases rest with
  | nil => rfl
  | cons c args =>
    simp only [parseCmd, apply_ite (Option.map _), Option.map_map, Option.map_bind, Option.map_none,
      Function.comp_def]

theorem parseArgs_eq_some_iff {fs : FsClass} {argv : List (List Char)} {g : Globals}
    {c : Option Cmd} :
    parseArgs fs argv = some (g, c) ↔
      ∃ rest, GParse fs {} argv g rest ∧
        ((rest = [] ∧ c = none) ∨
          ∃ t args cmd, rest = t :: args ∧ parseCmd t args = some cmd ∧ c = some cmd) := by
  rw [parseArgs_eq, Option.bind_eq_some_iff]
  constructor
  · rintro ⟨⟨g0, rest⟩, hg, h⟩
    cases rest with
    | nil => cases h; exact ⟨[], parseGlobals_sound hg, .inl ⟨rfl, rfl⟩⟩
    | cons t args =>
      obtain ⟨cmd, hc, h⟩ := Option.map_eq_some_iff.mp h
      cases h
      exact ⟨_, parseGlobals_sound hg, .inr ⟨t, args, cmd, rfl, hc, rfl⟩⟩
  · rintro ⟨rest, hg, (⟨rfl, rfl⟩ | ⟨t, args, cmd, rfl, hc, rfl⟩)⟩
    · exact ⟨_, parseGlobals_complete hg (Nat.lt_succ_self _), rfl⟩
    · exact ⟨_, parseGlobals_complete hg (Nat.lt_succ_self _), by simp only [hc, Option.map_some]⟩

theorem parseSub_spec {p l q : Bool} {fuel : Nat} {s s' : SubArgs} {args : List (List Char)}
    (h : parseSub p l q fuel s args = some s') :
    (s.mnemonicLen ∈ Generated.correctMnemonicLength → s'.mnemonicLen ∈ Generated.correctMnemonicLength) ∧
      args.any isFileOpt = false := by
  obtain ⟨_, _, _, _, kPassword, kMnemonicLen⟩ := isFileOpt_option
  -- cases of `parseSub`: 2 end of input, 3 `--password`, 7 `--mnemonic-len`, 11 positional; the others return `none`
  fun_induction parseSub p l q fuel s args
  case case2 => cases h; exact ⟨id, rfl⟩
  case case3 hv ih =>
    refine ⟨(ih h).1, ?_⟩
    rw [List.any_cons, List.any_cons, kPassword, isFileOpt_of_isValueTok hv, (ih h).2]
    rfl
  case case7 hv _ ih =>
    obtain ⟨n, _, h⟩ := Option.bind_eq_some_iff.mp h
    split at h
    next hlen =>
      refine ⟨fun _ => (ih n h).1 hlen.2, ?_⟩
      rw [List.any_cons, List.any_cons, kMnemonicLen, isFileOpt_of_isValueTok hv, (ih n h).2]
      rfl
    next => cases h
  case case11 hc ih =>
    refine ⟨(ih h).1, ?_⟩
    rw [List.any_cons, isFileOpt_of_isValueTok hc.1, (ih h).2]
    rfl
  all_goals cases h

/-- the arguments of an accepted sub-command passed their validators -/
def CmdValid : Cmd → Prop
  | .new _ len => len ∈ Generated.correctMnemonicLength
  | .fromXprv k => ∃ v, extendedKeyArg v = some k
  | .fromMnemonic m _ => ∃ v, mnemonicArg v = some m
  | .fromSeed s => ∃ v, seedArg v = some s
  | .fromEntropy e _ => ∃ v, entropyArg v = some e

theorem parseCmd_spec {c : List Char} {args : List (List Char)} {cmd : Cmd}
    (h : parseCmd c args = some cmd) : CmdValid cmd ∧ args.any isFileOpt = false := by
  revert h
  -- the branches of `parseCmd`: 1 `new`, 2–5 the four sub-commands with a positional argument, 6 no sub-command name
  fun_cases parseCmd c args <;> intro h
  case case1 =>
    obtain ⟨s, hs, rfl⟩ := Option.map_eq_some_iff.mp h
    exact ⟨(parseSub_spec hs).1 (by decide), (parseSub_spec hs).2⟩
  case case6 => cases h
  all_goals
    obtain ⟨s, hs, h⟩ := Option.bind_eq_some_iff.mp h
    obtain ⟨k, hk, rfl⟩ := Option.map_eq_some_iff.mp h
    obtain ⟨v, _, hv⟩ := Option.bind_eq_some_iff.mp hk
    exact ⟨⟨v, hv⟩, (parseSub_spec hs).2⟩

theorem parseArgs_file {fs : FsClass} {argv : List (List Char)} {g : Globals} {c : Option Cmd}
    (h : parseArgs fs argv = some (g, c)) :
    g.file = argv.any isFileOpt ∧ (g.file = true → fs = .absent) := by
  obtain ⟨rest, hg, hrest⟩ := parseArgs_eq_some_iff.mp h
  refine ⟨?_, fun hf => (hg.file_inv hf).resolve_left Bool.false_ne_true⟩
  have hr : rest.any isFileOpt = false := by
    rcases hrest with ⟨rfl, _⟩ | ⟨t, args, cmd, rfl, hc, _⟩
    · rfl
    · obtain _ | ⟨_, _, ht, hm⟩ := hg.rest_shape
      · contradiction
      · cases ht
        rw [List.any_cons, isFileOpt_subcommand hm, (parseCmd_spec hc).2]
        rfl
  simpa [hr] using hg.file_eq

/-- what `main` emits for accepted arguments: the report of the wallet the chosen constructor
builds, passed through `paranoia_mode` when `--paranoia` was given -/
def report (P : Prims Pt) (os : Nat → Bytes) (g : Globals) (cmd : Cmd) : Option Json :=
  (construct P os g cmd).bind fun w => (generate P w g.account g.a g.b).bind fun data =>
    if g.paranoia then paranoia data else some data

theorem run_eq (P : Prims Pt) (os : Nat → Bytes) (fs : FsClass) (argv : List (List Char)) :
    run P os fs argv =
      match parseArgs fs argv with
      | none => .reject
      | some (_, none) => .help
      | some (g, some cmd) =>
        match report P os g cmd with
        | none => .reject
        | some d => .emit (if g.file then .file else .stdout) d := by
  unfold run report
  rcases parseArgs fs argv with _ | ⟨g, _ | cmd⟩
  · rfl
  · rfl
  · dsimp only
    cases construct P os g cmd with
    | none => rfl
    | some w =>
      dsimp only [Option.bind_some]
      cases generate P w g.account g.a g.b <;> rfl

theorem report_eq_some_iff {P : Prims Pt} {os : Nat → Bytes} {g : Globals} {cmd : Cmd} {r : Json} :
    report P os g cmd = some r ↔
      ∃ w data, construct P os g cmd = some w ∧ generate P w g.account g.a g.b = some data ∧
        if g.paranoia then paranoia data = some r else r = data := by
  unfold report
  cases g.paranoia <;>
    simp only [Option.bind_eq_some_iff, Bool.false_eq_true, if_false, if_true, Option.some.injEq,
      exists_and_left, @eq_comm _ r]

/-- `report` fails only when the constructor or `generate` does: `paranoia_mode` cannot fail on
a generated report -/
theorem report_eq_none_iff {P : Prims Pt} {os : Nat → Bytes} {g : Globals} {cmd : Cmd} :
    report P os g cmd = none ↔
      construct P os g cmd = none ∨
        ∃ w, construct P os g cmd = some w ∧ generate P w g.account g.a g.b = none := by
  unfold report
  cases construct P os g cmd with
  | none => simp
  | some w =>
    cases hd : generate P w g.account g.a g.b with
    | none => simp [hd]
    | some data =>
      obtain ⟨r, hp⟩ := Option.isSome_iff_exists.mp (paranoia_isSome_of_generate hd)
      cases g.paranoia <;> simp [hp, hd]

/-- `group[:-1]` on one row -/
def stripRow : Json → Json
  | .arr cols => .arr cols.dropLast
  | j => j

/-- The paranoia view of one account block: path and public key only, rows without their last column.  The keys
object is taken apart by position; the definition is meant for `Acct.toPair` only (`paranoiaAcct_toPair`) and is
stated on raw pairs because that is what `bipAccount` returns. -/
def paranoiaAcct (x : Json × List Json) : Json :=
  match x.1 with
  | .obj [(_, pth), (_, pub), _] =>
    .obj [("account_extended_keys".toList, .obj [("path".toList, pth), ("pub".toList, pub)]),
          ("groups".toList, .arr (x.2.map stripRow))]
  | _ => .null

theorem paranoiaAcct_toPair (v : Acct) : paranoiaAcct v.toPair = v.toPublicJson := by
  unfold paranoiaAcct Acct.toPair Acct.toPublicJson
  rw [List.map_map]
  rfl

end BtcHd.Cli
