/-
Observers on the JSON-shaped values of `Model/Wallet.lean` used to state C15:
the list of all string / null leaves of a value, and access by a path of keys and indexes.
-/
import BtcHd.Model.Wallet

namespace BtcHd.Wallet

/-- a leaf of a JSON value: a string, or `null` -/
abbrev Leaf := List Char ⊕ Unit

mutual
/-- all string and `null` values occurring in a JSON value at any depth, in document order
(object keys are labels, not values, and are not listed) -/
def leaves : Json → List Leaf
  | .null => [.inr ()]
  | .str s => [.inl s]
  | .arr xs => leavesArr xs
  | .obj kvs => leavesObj kvs
def leavesArr : List Json → List Leaf
  | [] => []
  | x :: xs => leaves x ++ leavesArr xs
def leavesObj : List (List Char × Json) → List Leaf
  | [] => []
  | kv :: kvs => leaves kv.2 ++ leavesObj kvs
end

theorem leaves_null : leaves .null = [.inr ()] := by simp [leaves]
theorem leaves_str (s : List Char) : leaves (.str s) = [.inl s] := by simp [leaves]

theorem leavesArr_eq_flatMap (xs : List Json) : leavesArr xs = xs.flatMap leaves := by
  induction xs with
  | nil => rw [leavesArr]; rfl
  | cons x xs ih => rw [leavesArr, ih, List.flatMap_cons]

theorem leavesObj_eq_flatMap (kvs : List (List Char × Json)) :
    leavesObj kvs = kvs.flatMap fun kv => leaves kv.2 := by
  induction kvs with
  | nil => rw [leavesObj]; rfl
  | cons kv kvs ih => rw [leavesObj, ih, List.flatMap_cons]

theorem leaves_arr (xs : List Json) : leaves (.arr xs) = xs.flatMap leaves := by
  rw [← leavesArr_eq_flatMap]; simp [leaves]

theorem leaves_obj (kvs : List (List Char × Json)) :
    leaves (.obj kvs) = kvs.flatMap fun kv => leaves kv.2 := by
  rw [← leavesObj_eq_flatMap]; simp [leaves]

/-- `j[k]` for one key or index (`none` = KeyError / IndexError / TypeError) -/
def Json.step : Json → (List Char ⊕ Nat) → Option Json
  | .obj kvs, .inl k => kvs.lookup k
  | .arr xs, .inr i => xs[i]?
  | _, _ => none

/-- `j[k₁][k₂]…` for a list of keys / indexes (`none` = KeyError / IndexError / TypeError) -/
def Json.getPath (j : Json) (p : List (List Char ⊕ Nat)) : Option Json := p.foldlM Json.step j

theorem Json.getPath_nil (j : Json) : j.getPath [] = some j := rfl

theorem Json.getPath_cons (j : Json) (s : List Char ⊕ Nat) (p : List (List Char ⊕ Nat)) :
    j.getPath (s :: p) = (j.step s).bind fun j' => j'.getPath p := rfl

theorem getPath_cons_of_step {j j1 : Json} {s : List Char ⊕ Nat} (h : j.step s = some j1)
    (p : List (List Char ⊕ Nat)) : j.getPath (s :: p) = j1.getPath p := by
  rw [Json.getPath_cons, h, Option.bind_some]

theorem getPath_cons_of_step_none {j : Json} {s : List Char ⊕ Nat} (h : j.step s = none)
    (p : List (List Char ⊕ Nat)) : j.getPath (s :: p) = none := by
  rw [Json.getPath_cons, h, Option.bind_none]

/-- `p` leads to the same string in both values: how C15 says that the filter leaves an entry unchanged -/
def SameStrAt (p : List (List Char ⊕ Nat)) (j j' : Json) : Prop :=
  ∃ s, j.getPath p = some (.str s) ∧ j'.getPath p = some (.str s)

/-- `p` leads somewhere in the first value and nowhere in the second: how C15 says that an entry is gone -/
def RemovedAt (p : List (List Char ⊕ Nat)) (j j' : Json) : Prop :=
  (j.getPath p).isSome = true ∧ j'.getPath p = none

theorem SameStrAt.step {k : List Char ⊕ Nat} {p : List (List Char ⊕ Nat)} {j j' j₁ j₁' : Json}
    (h : j.step k = some j₁) (h' : j'.step k = some j₁') (hs : SameStrAt p j₁ j₁') :
    SameStrAt (k :: p) j j' := by
  unfold SameStrAt
  rwa [getPath_cons_of_step h, getPath_cons_of_step h']

theorem RemovedAt.step {k : List Char ⊕ Nat} {p : List (List Char ⊕ Nat)} {j j' j₁ j₁' : Json}
    (h : j.step k = some j₁) (h' : j'.step k = some j₁') (hs : RemovedAt p j₁ j₁') :
    RemovedAt (k :: p) j j' := by
  unfold RemovedAt
  rwa [getPath_cons_of_step h, getPath_cons_of_step h']

end BtcHd.Wallet
