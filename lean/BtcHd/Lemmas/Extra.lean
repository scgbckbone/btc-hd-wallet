/-
Lemmas for `Props/Extra.lean` about `Model/Extra.lean`: `chunks` as the explicit list of slices
`chunkList`, one Merkle level as `pairUp` of `padLevel`, the `__eq__` methods as equality of a key.
-/
import BtcHd.Model.Extra
import BtcHd.Lemmas.Basics
import BtcHd.Lemmas.Bech32

namespace BtcHd.ExtraLemmas
open BtcHd BtcHd.Extra Basics

/-- the list of slices `chunks` returns for a positive step: the `some` arm of `Extra.chunks`
under a name, so that lemmas can speak of it -/
def chunkList {α : Type} (n : Nat) (lst : List α) : List (List α) :=
  (List.range' 0 ((lst.length + n - 1) / n) n).map fun i => (lst.drop i).take n

theorem chunks_eq_some_iff {α : Type} {n : Nat} {lst : List α} {cs : List (List α)} :
    chunks n lst = some cs ↔ 0 < n ∧ chunkList n lst = cs := by
  unfold chunks
  split
  · simp [*]
  · simp [chunkList, Nat.pos_of_ne_zero ‹_›]

theorem chunks_pos {α : Type} {n : Nat} (hn : 0 < n) (lst : List α) :
    chunks n lst = some (chunkList n lst) :=
  chunks_eq_some_iff.mpr ⟨hn, rfl⟩

theorem chunkList_length {α : Type} (n : Nat) (lst : List α) :
    (chunkList n lst).length = (lst.length + n - 1) / n := by
  unfold chunkList
  rw [List.length_map, List.length_range']

theorem chunkList_getElem {α : Type} (n : Nat) (lst : List α) (i : Nat)
    (h : i < (chunkList n lst).length) : (chunkList n lst)[i] = (lst.drop (n * i)).take n := by
  simp only [chunkList, List.getElem_map, List.getElem_range', Nat.zero_add]

/-! `(len + n - 1) / n` is `len / n` rounded up, the number of slices. -/

/-- slice `i` exists exactly when it starts inside the list -/
theorem lt_count_iff {len n i : Nat} (hn : 0 < n) : i < (len + n - 1) / n ↔ n * i < len := by
  rw [Nat.lt_iff_add_one_le, Nat.le_div_iff_mul_le hn, Nat.add_mul, Nat.mul_comm]
  omega

theorem count_step {len n : Nat} (hn : 0 < n) (hl : 0 < len) :
    (len + n - 1) / n = ((len - n) + n - 1) / n + 1 := by
  rw [show len + n - 1 = len - 1 + n by omega, Nat.add_div_right _ hn]
  by_cases h : n ≤ len
  · rw [show len - n + n - 1 = len - 1 by omega]
  · rw [Nat.div_eq_of_lt (by omega), Nat.div_eq_of_lt (by omega)]

theorem chunkList_nil {α : Type} {n : Nat} (hn : 0 < n) : chunkList n ([] : List α) = [] := by
  rw [chunkList, List.length_nil, Nat.zero_add, Nat.div_eq_of_lt (by omega)]
  rfl

theorem chunkList_step {α : Type} {n : Nat} (hn : 0 < n) {lst : List α} (hl : lst ≠ []) :
    chunkList n lst = lst.take n :: chunkList n (lst.drop n) := by
  unfold chunkList
  rw [count_step hn (List.length_pos_iff.mpr hl), List.range'_succ, List.map_cons, List.drop_zero,
    List.length_drop, Nat.zero_add, ← Nat.add_zero n, ← List.map_add_range', List.map_map]
  simp only [Nat.add_zero, Function.comp_def, List.drop_drop]

theorem chunkList_flatten {α : Type} {n : Nat} (hn : 0 < n) (lst : List α) :
    (chunkList n lst).flatten = lst := by
  by_cases hl : lst = []
  · rw [hl, chunkList_nil hn]; rfl
  · rw [chunkList_step hn hl, List.flatten_cons, chunkList_flatten hn (lst.drop n),
      List.take_append_drop]
termination_by lst.length
decreasing_by
  have := List.length_pos_iff.mpr hl
  rw [List.length_drop]; omega

theorem padLevel_of_even {xs : List Bytes} (h : xs.length % 2 = 0) : padLevel xs = xs := by
  unfold padLevel
  rw [if_neg (by omega)]

theorem padLevel_of_odd {xs : List Bytes} (h : xs.length % 2 = 1) :
    ∃ l, xs.getLast? = some l ∧ padLevel xs = xs ++ [l] := by
  have hl := List.getLast?_eq_some_getLast (l := xs) (by rintro rfl; cases h)
  exact ⟨_, hl, by rw [padLevel, if_pos h, hl]⟩

theorem padLevel_length (xs : List Bytes) : (padLevel xs).length = xs.length + xs.length % 2 := by
  rcases Nat.mod_two_eq_zero_or_one xs.length with h | h
  · rw [padLevel_of_even h]; omega
  · obtain ⟨l, _, e⟩ := padLevel_of_odd h
    rw [e, List.length_append, List.length_singleton]; omega

theorem pairUp_nil (h : Bytes → Bytes) : pairUp h [] = [] := rfl
theorem pairUp_single (h : Bytes → Bytes) (a : Bytes) : pairUp h [a] = [] := rfl
theorem pairUp_cons_cons (h : Bytes → Bytes) (a b : Bytes) (rest : List Bytes) :
    pairUp h (a :: b :: rest) = merkleParent h a b :: pairUp h rest := rfl

theorem pairUp_length (h : Bytes → Bytes) : ∀ xs : List Bytes, (pairUp h xs).length = xs.length / 2
  | [] => rfl
  | [_] => by simp [pairUp]
  | _ :: _ :: rest => by
    rw [pairUp_cons_cons, List.length_cons, pairUp_length h rest, List.length_cons, List.length_cons]
    omega

theorem pairUp_getElem (h : Bytes → Bytes) : ∀ (xs : List Bytes) (i : Nat)
    (hi : i < (pairUp h xs).length) (h0 : 2 * i < xs.length) (h1 : 2 * i + 1 < xs.length),
    (pairUp h xs)[i] = merkleParent h xs[2 * i] xs[2 * i + 1]
  | _ :: _ :: _, 0, _, _, _ => rfl
  | _ :: _ :: rest, i + 1, _, _, _ => pairUp_getElem h rest i _ _ _

theorem merkleParentLevel_eq_some_iff {h : Bytes → Bytes} {xs ys : List Bytes} :
    merkleParentLevel h xs = some ys ↔ xs.length ≠ 1 ∧ pairUp h (padLevel xs) = ys := by
  unfold merkleParentLevel
  split <;> simp [*]

theorem merkleParentLevel_of_ne (h : Bytes → Bytes) {xs : List Bytes} (hx : xs.length ≠ 1) :
    merkleParentLevel h xs = some (pairUp h (padLevel xs)) :=
  merkleParentLevel_eq_some_iff.mpr ⟨hx, rfl⟩

theorem level_length (h : Bytes → Bytes) (xs : List Bytes) :
    (pairUp h (padLevel xs)).length = (xs.length + 1) / 2 := by
  rw [pairUp_length, padLevel_length]; omega

theorem merkleRootLoop_stable (h : Bytes → Bytes) {fuel : Nat} {xs : List Bytes}
    (hx : xs.length ≤ fuel) : merkleRootLoop h (fuel + 1) xs = merkleRootLoop h fuel xs := by
  induction fuel generalizing xs with
  | zero => rw [List.eq_nil_of_length_eq_zero (Nat.le_zero.mp hx)]; rfl
  | succ fuel ih =>
    rw [merkleRootLoop, merkleRootLoop]
    split
    · rw [merkleParentLevel_of_ne h (by omega)]
      exact ih (by rw [level_length]; omega)
    · rfl

theorem bytesOfInts_nil : bytesOfInts [] = some [] := rfl

theorem bytesOfInts_of_lt {xs : List Nat} (h : ∀ v ∈ xs, v < 256) :
    bytesOfInts xs = some (xs.map UInt8.ofNat) :=
  mapM_eq_some_map fun v hv => if_pos (h v hv)

theorem bytesOfInts_eq_some_iff {xs : List Nat} {bs : Bytes} :
    bytesOfInts xs = some bs ↔ bs.map (·.toNat) = xs := by
  constructor
  · intro h
    replace h := mapM_eq_some_iff_forall₂.mp h
    induction h with
    | nil => rfl
    | @cons v b _ _ hvb _ ih =>
      split at hvb <;> cases hvb
      rw [List.map_cons, ih, UInt8.toNat_ofNat_of_lt' ‹_›]
  · rintro rfl
    rw [bytesOfInts_of_lt (Bech32.bytes_lt bs), map_map_cancel fun b _ => UInt8.ofNat_toNat]

/-- a successful `decode` fixes the shape of the address: the expected prefix is what precedes
the separator of the lower-cased address, so it contains no upper-case letter -/
theorem decode_some_shape {hrp s : List Char} {r : Nat × List Nat}
    (h : Bech32.decode hrp s = some r) :
    (∀ c ∈ hrp, Bech32.isUpperAscii c = false) ∧
      ∃ dp, s.map Bech32.toLowerAscii = hrp ++ '1' :: dp ∧ 6 ≤ dp.length := by
  obtain ⟨data, spec, hb, _⟩ := Bech32.decode_eq_some_iff.mp h
  obtain ⟨_, _, _, dp, hs, _, _, h6, _⟩ := Bech32.bech32Decode_eq_some_iff.mp hb
  refine ⟨?_, dp, hs, h6⟩
  intro c hc
  have : c ∈ s.map Bech32.toLowerAscii := by
    rw [hs]; exact List.mem_append_left _ hc
  obtain ⟨c', _, rfl⟩ := List.mem_map.mp this
  exact Bech32.isUpperAscii_toLowerAscii c'

theorem join_nil (sep : List Char) : Text.join sep [] = [] := rfl
theorem join_single (sep p : List Char) : Text.join sep [p] = p := rfl
theorem join_cons_cons (sep p q : List Char) (ps : List (List Char)) :
    Text.join sep (p :: q :: ps) = p ++ sep ++ Text.join sep (q :: ps) :=
  Text.join_cons_cons sep p q ps

theorem join_append_of_ne (sep : List Char) {a b : List (List Char)} (ha : a ≠ []) (hb : b ≠ []) :
    Text.join sep (a ++ b) = Text.join sep a ++ sep ++ Text.join sep b := by
  obtain ⟨p, ps, rfl⟩ := List.exists_cons_of_ne_nil ha
  obtain ⟨q, qs, rfl⟩ := List.exists_cons_of_ne_nil hb
  rw [List.cons_append, Text.join_cons, Text.join_cons, Text.join_cons, List.flatMap_append,
    List.flatMap_cons]
  simp only [List.append_assoc]

theorem ext_of_getElem?_lt {α : Type} {a b : List α} {n : Nat} (ha : a.length ≤ n)
    (hb : b.length ≤ n) (h : ∀ i < n, a[i]? = b[i]?) : a = b :=
  List.ext_getElem? fun i =>
    if hi : i < n then h i hi
    else by rw [List.getElem?_eq_none (by omega), List.getElem?_eq_none (by omega)]

/-! ### comparisons that amount to equality of a key (the `__eq__` methods) -/

theorem equivalence_of_key {α κ : Type} {r : α → α → Bool} (key : α → κ)
    (hr : ∀ a b, r a b = true ↔ key a = key b) :
    (∀ a, r a a = true) ∧ (∀ a b, r a b = true → r b a = true) ∧
      (∀ a b c, r a b = true → r b c = true → r a c = true) :=
  ⟨fun a => (hr a a).mpr rfl, fun a b h => (hr b a).mpr ((hr a b).mp h).symm,
    fun a b c h h' => (hr a c).mpr (((hr a b).mp h).trans ((hr b c).mp h'))⟩

/-- what `PubKeyNode.__eq__` compares -/
def nodeKey (a : Bip32.Node) :=
  (a.isPrv, beToNat a.key, a.chainCode, a.depth, a.index, a.testnet, Bip32.parentFingerprint a)

theorem nodeEq_iff (a b : Bip32.Node) : Bip32.nodeEq a b = true ↔ nodeKey a = nodeKey b := by
  simp only [Bip32.nodeEq, nodeKey, decide_eq_true_iff, Prod.mk.injEq]

end BtcHd.ExtraLemmas
