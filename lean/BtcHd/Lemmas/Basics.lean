/-
Facts about no one part of the model, used by several lemma files: `List.mapM` in `Option` (a
comprehension whose body may raise), lookup tables, the Python slices `xs[-k:]` / `xs[:-k]`, hex; and,
next to their functions in `namespace BtcHd.Text`, `split` / `join`, decimal strings, `strip` and the UTF-8
encoder (it is core's).
Core Lean only (plus the definition of `List.Forall₂`).
-/
import Batteries.Data.List.Basic
import BtcHd.Model.Text

namespace BtcHd.Basics
open BtcHd

variable {α β : Type}

theorem mapM_cons (f : α → Option β) (a : α) (l : List α) :
    (a :: l).mapM f = (f a).bind fun b => (l.mapM f).map (b :: ·) := by
  rw [List.mapM_cons]
  cases f a with
  | none => rfl
  | some b => cases l.mapM f <;> rfl

/-- everything else about `mapM` in `Option` is read off this equation of plain lists -/
theorem mapM_eq_some_iff {f : α → Option β} {l : List α} {bs : List β} :
    l.mapM f = some bs ↔ l.map f = bs.map some := by
  induction l generalizing bs with
  | nil => cases bs <;> simp
  | cons a l ih =>
    rw [mapM_cons]
    cases bs with
    | nil => cases f a <;> simp
    | cons b bs =>
      rw [List.map_cons, List.map_cons, List.cons.injEq, ← ih]
      cases f a with
      | none => simp
      | some b' => cases l.mapM f <;> simp

theorem mapM_eq_none_iff {f : α → Option β} {l : List α} :
    l.mapM f = none ↔ ∃ a ∈ l, f a = none := by
  induction l with
  | nil => simp
  | cons a l ih => rw [mapM_cons]; cases hfa : f a <;> simp [hfa, ih]

theorem mapM_eq_some_iff_forall₂ {f : α → Option β} {l : List α} {bs : List β} :
    l.mapM f = some bs ↔ List.Forall₂ (fun a b => f a = some b) l bs := by
  rw [mapM_eq_some_iff]
  constructor
  · intro h
    induction l generalizing bs with
    | nil => cases bs <;> simp_all
    | cons a l ih =>
      cases bs with
      | nil => simp at h
      | cons b bs => rw [List.map_cons, List.map_cons, List.cons.injEq] at h; exact .cons h.1 (ih h.2)
  · intro h
    induction h with
    | nil => rfl
    | cons hab _ ih => rw [List.map_cons, List.map_cons, hab, ih]

theorem mapM_eq_some_map {f : α → Option β} {g : α → β} {l : List α}
    (h : ∀ a ∈ l, f a = some (g a)) : l.mapM f = some (l.map g) := by
  rw [mapM_eq_some_iff, List.map_map]; exact List.map_congr_left h

theorem length_of_mapM_eq_some {f : α → Option β} {l : List α} {bs : List β}
    (h : l.mapM f = some bs) : bs.length = l.length := by
  simpa using (congrArg List.length (mapM_eq_some_iff.mp h)).symm

theorem getElem?_of_mapM_eq_some {f : α → Option β} {l : List α} {bs : List β}
    (h : l.mapM f = some bs) {i : Nat} {a : α} (ha : l[i]? = some a) :
    ∃ b, bs[i]? = some b ∧ f a = some b := by
  have := congrArg (·[i]?) (mapM_eq_some_iff.mp h)
  simp only [List.getElem?_map, ha] at this
  obtain ⟨b, hb, hab⟩ := Option.map_eq_some_iff.mp this.symm
  exact ⟨b, hb, hab.symm⟩

theorem mem_of_mapM_eq_some {f : α → Option β} {l : List α} {bs : List β}
    (h : l.mapM f = some bs) {b : β} (hb : b ∈ bs) : ∃ a ∈ l, f a = some b := by
  have : some b ∈ l.map f := by rw [mapM_eq_some_iff.mp h]; exact List.mem_map_of_mem hb
  exact List.mem_map.mp this

/-! ### lookup tables: `getD` and `idxOf` on a list without duplicates -/

theorem getD_eq_getElem {l : List α} {i : Nat} (h : i < l.length) (d : α) : l.getD i d = l[i] := by
  rw [List.getD_eq_getElem?_getD, List.getElem?_eq_getElem h, Option.getD_some]

theorem getD_mem {l : List α} {i : Nat} (h : i < l.length) (d : α) : l.getD i d ∈ l :=
  getD_eq_getElem h d ▸ List.getElem_mem h

theorem getD_idxOf [BEq α] [LawfulBEq α] {l : List α} {c : α} (h : c ∈ l) (d : α) :
    l.getD (l.idxOf c) d = c := by
  have hlt := List.idxOf_lt_length_of_mem h
  rw [getD_eq_getElem hlt]; exact List.getElem_idxOf hlt

theorem idxOf_getD [BEq α] [LawfulBEq α] {l : List α} (hn : l.Nodup) {i : Nat} (h : i < l.length)
    (d : α) : l.idxOf (l.getD i d) = i := by
  rw [getD_eq_getElem h]; exact hn.idxOf_getElem i h

theorem map_map_cancel {f : α → β} {g : β → α} {l : List α} (h : ∀ a ∈ l, g (f a) = a) :
    (l.map f).map g = l := by
  rw [List.map_map]
  exact (List.map_congr_left h).trans (List.map_id l)

theorem map_eq_self_iff {f : α → α} {s : List α} : s.map f = s ↔ ∀ c ∈ s, f c = c := by
  simpa using List.map_inj_left (f := f) (g := id) (l := s)

theorem dropLastN_append_lastN (k : Nat) (xs : List α) : dropLastN k xs ++ lastN k xs = xs :=
  List.take_append_drop ..

theorem dropLastN_append {k : Nat} (xs : List α) {ys : List α} (h : ys.length = k) :
    dropLastN k (xs ++ ys) = xs := by
  unfold dropLastN; rw [List.length_append, h, Nat.add_sub_cancel, List.take_left' rfl]

theorem lastN_append {k : Nat} (xs : List α) {ys : List α} (h : ys.length = k) :
    lastN k (xs ++ ys) = ys := by
  unfold lastN; rw [List.length_append, h, Nat.add_sub_cancel, List.drop_left' rfl]

theorem dropLastN_one (xs : List α) : dropLastN 1 xs = xs.dropLast :=
  List.dropLast_eq_take.symm

/-- code points below the surrogate range survive `Char.ofNat` -/
theorem toNat_ofNat_of_lt {n : Nat} (h : n < 0xd800) : (Char.ofNat n).toNat = n := by
  have hv : n.isValidChar := Or.inl h
  simp [Char.ofNat, hv, Char.ofNatAux]

theorem toHex_append (a b : Bytes) : toHex (a ++ b) = toHex a ++ toHex b := by
  induction a with
  | nil => rfl
  | cons x xs ih => simp [toHex, ih]

theorem fromHex_toHex (bs : Bytes) : fromHex (toHex bs) = some bs := by
  induction bs with
  | nil => rfl
  | cons b bs ih =>
    have hd : ∀ n, n < 16 → isHexSpace (hexDigit n) = false ∧ hexVal (hexDigit n) = some n := by
      decide
    have hb : b.toNat < 256 := UInt8.toNat_lt b
    obtain ⟨s1, v1⟩ := hd (b.toNat / 16) (by omega)
    obtain ⟨s2, v2⟩ := hd (b.toNat % 16) (Nat.mod_lt _ (by decide))
    rw [toHex, fromHex]
    simp only [s1, v1, v2, ih]
    rw [Nat.div_add_mod']
    simp

end BtcHd.Basics

namespace BtcHd.Text
open BtcHd

theorem splitOn_ne_nil (sep : Char) (s : List Char) : splitOn sep s ≠ [] := by
  cases s with
  | nil => simp [splitOn]
  | cons c cs =>
    rw [splitOn]
    split
    · simp
    · split <;> simp

/-- the recursion equation of `splitOn` without its unreachable case -/
theorem splitOn_cons (sep c : Char) (cs : List Char) :
    splitOn sep (c :: cs) =
      if c = sep then [] :: splitOn sep cs
      else (c :: (splitOn sep cs).headD []) :: (splitOn sep cs).tail := by
  rw [splitOn]
  cases h : splitOn sep cs with
  | nil => exact absurd h (splitOn_ne_nil sep cs)
  | cons p ps => rfl

theorem splitOn_append {sep : Char} {p : List Char} (h : sep ∉ p) (t : List Char) :
    splitOn sep (p ++ t) = (p ++ (splitOn sep t).headD []) :: (splitOn sep t).tail := by
  induction p with
  | nil =>
    obtain ⟨q, qs, hq⟩ := List.exists_cons_of_ne_nil (splitOn_ne_nil sep t)
    rw [List.nil_append, hq]
    rfl
  | cons c cs ih =>
    rw [List.mem_cons, not_or] at h
    rw [List.cons_append, splitOn_cons, if_neg (Ne.symm h.1), ih h.2]
    rfl

theorem join_cons_cons (sep p q : List Char) (ps : List (List Char)) :
    join sep (p :: q :: ps) = p ++ sep ++ join sep (q :: ps) := rfl

theorem join_cons (sep p : List Char) (ps : List (List Char)) :
    join sep (p :: ps) = p ++ ps.flatMap (sep ++ ·) := by
  induction ps generalizing p with
  | nil => exact (List.append_nil p).symm
  | cons q ps ih => rw [join_cons_cons, ih, List.flatMap_cons, List.append_assoc, List.append_assoc]

/-- `"/".join(parts).split("/") == parts` when no part contains the separator -/
theorem splitOn_join_sep {sep : Char} {parts : List (List Char)}
    (hno : ∀ p ∈ parts, sep ∉ p) (hne : parts ≠ []) :
    splitOn sep (join [sep] parts) = parts := by
  induction parts with
  | nil => exact absurd rfl hne
  | cons p ps ih =>
    have hp : sep ∉ p := hno p List.mem_cons_self
    cases ps with
    | nil => simpa [splitOn, join] using splitOn_append hp []
    | cons q qs =>
      rw [join_cons_cons, List.append_assoc, splitOn_append hp, List.singleton_append, splitOn_cons,
        if_pos rfl, ih (fun x hx => hno x (List.mem_cons_of_mem _ hx)) (List.cons_ne_nil _ _)]
      simp

theorem exists_join_eq (sep : Char) (s : List Char) :
    ∃ parts, (∀ p ∈ parts, sep ∉ p) ∧ parts ≠ [] ∧ join [sep] parts = s := by
  induction s with
  | nil => exact ⟨[[]], by simp, by simp, rfl⟩
  | cons c cs ih =>
    obtain ⟨parts, hno, hne, rfl⟩ := ih
    obtain ⟨q, qs, rfl⟩ := List.exists_cons_of_ne_nil hne
    by_cases hc : c = sep
    · exact ⟨[] :: q :: qs, by simpa using hno, by simp, by rw [join_cons_cons, hc]; rfl⟩
    · refine ⟨(c :: q) :: qs, ?_, by simp, by cases qs <;> rfl⟩
      simp only [List.mem_cons, forall_eq_or_imp, not_or] at hno ⊢
      exact ⟨⟨Ne.symm hc, hno.1⟩, hno.2⟩

/-- `split` finds the pieces of which the string is the join: none contains the separator, and
`"/".join(s.split("/")) == s` -/
theorem splitOn_spec (sep : Char) (s : List Char) :
    (∀ p ∈ splitOn sep s, sep ∉ p) ∧ join [sep] (splitOn sep s) = s := by
  obtain ⟨parts, hno, hne, rfl⟩ := exists_join_eq sep s
  rw [splitOn_join_sep hno hne]
  exact ⟨hno, rfl⟩

theorem sep_not_mem_of_mem_splitOn {sep : Char} {s p : List Char} (h : p ∈ splitOn sep s) :
    sep ∉ p :=
  (splitOn_spec sep s).1 p h

theorem join_splitOn (sep : Char) (s : List Char) : join [sep] (splitOn sep s) = s :=
  (splitOn_spec sep s).2

/-- a non-empty string of ASCII digits -/
def IsDec (d : List Char) : Prop := d ≠ [] ∧ ∀ ch ∈ d, ch.isDigit = true

theorem parseDec_eq_some_iff {s : List Char} {n : Nat} :
    parseDec s = some n ↔ IsDec s ∧ n = decVal s := by
  unfold parseDec IsDec
  simp only [List.all_eq_true]
  split
  · next h => exact ⟨fun e => ⟨h, (Option.some.inj e).symm⟩, fun e => e.2 ▸ rfl⟩
  · next h => exact ⟨nofun, fun e => absurd e.1 h⟩

theorem isDec_natToDec (n : Nat) : IsDec (natToDec n) :=
  ⟨Nat.toDigits_ne_nil, fun _ h => Nat.isDigit_of_mem_toDigits (by decide) (by decide) h⟩

theorem decVal_natToDec (n : Nat) : decVal (natToDec n) = n := Nat.ofDigitChars_ten_toDigits

theorem parseDec_natToDec (n : Nat) : parseDec (natToDec n) = some n :=
  parseDec_eq_some_iff.mpr ⟨isDec_natToDec n, (decVal_natToDec n).symm⟩

theorem IsDec.getLast?_isDigit {d : List Char} (h : IsDec d) :
    ∃ c, d.getLast? = some c ∧ c.isDigit = true := by
  refine ⟨d.getLast h.1, List.getLast?_eq_some_getLast h.1, h.2 _ (List.getLast_mem h.1)⟩

theorem IsDec.not_mem {d : List Char} (h : IsDec d) {c : Char} (hc : c.isDigit = false) :
    c ∉ d := fun hm => by rw [h.2 c hm] at hc; cases hc

theorem lstrip_of_all {s : List Char} (h : ∀ c ∈ s, isSpace c = false) : lstrip s = s := by
  cases s with
  | nil => rfl
  | cons c cs => simp [lstrip, h c List.mem_cons_self]

theorem strip_of_all {s : List Char} (h : ∀ c ∈ s, isSpace c = false) : strip s = s := by
  unfold strip
  rw [lstrip_of_all h, lstrip_of_all (fun c hc => h c (List.mem_reverse.mp hc)), List.reverse_reverse]

theorem isSpace_of_isDigit {c : Char} (h : c.isDigit = true) : isSpace c = false := by
  cases hs : isSpace c with
  | false => rfl
  | true =>
    simp only [isSpace, isHexSpace, Bool.or_eq_true, decide_eq_true_eq] at hs
    rcases hs with ((((rfl | rfl) | rfl) | rfl) | rfl) | rfl <;> revert h <;> decide

theorem IsDec.strip {d : List Char} (h : IsDec d) : strip d = d :=
  strip_of_all fun c hc => isSpace_of_isDigit (h.2 c hc)

theorem utf8_append (a b : List Char) : utf8 (a ++ b) = utf8 a ++ utf8 b := by
  unfold utf8; rw [List.flatMap_append]

theorem utf8Char_ascii {c : Char} (h : c.toNat < 128) : utf8Char c = [UInt8.ofNat c.toNat] := by
  unfold utf8Char
  rw [if_pos h]

theorem utf8_ascii (s : List Char) (h : ∀ c ∈ s, c.toNat < 128) :
    utf8 s = s.map fun c => UInt8.ofNat c.toNat := by
  induction s with
  | nil => rfl
  | cons c cs ih =>
    unfold utf8 at ih ⊢
    rw [List.flatMap_cons, utf8Char_ascii (h c (List.mem_cons_self ..)),
      ih fun x hx => h x (List.mem_cons_of_mem _ hx)]
    rfl

theorem utf8Char_length (c : Char) :
    (utf8Char c).length =
      if c.toNat < 0x80 then 1 else if c.toNat < 0x800 then 2 else if c.toNat < 0x10000 then 3
      else 4 := by
  unfold utf8Char
  simp only
  split
  · rfl
  · split
    · rfl
    · split <;> rfl

theorem utf8Char_eq_core (c : Char) : utf8Char c = String.utf8EncodeChar c := by
  have hv : c.toNat < 0x110000 := by
    have := c.valid
    unfold Char.toNat
    omega
  unfold utf8Char String.utf8EncodeChar
  -- the same ladder of tests once `≤ 0x7f` is read as `< 0x80`; on each rung the lead byte's `% 2^k` does nothing
  simp only [show c.val.toNat = c.toNat from rfl, ← Nat.lt_succ_iff]
  generalize c.toNat = n at hv ⊢
  by_cases h1 : n < 0x80
  · rw [if_pos h1, if_pos h1]
  rw [if_neg h1, if_neg h1]
  by_cases h2 : n < 0x800
  · rw [if_pos h2, if_pos h2, Nat.mod_eq_of_lt (show n / 64 < 0x20 by omega)]; simp only [Nat.add_comm]
  rw [if_neg h2, if_neg h2]
  by_cases h3 : n < 0x10000
  · rw [if_pos h3, if_pos h3, Nat.mod_eq_of_lt (show n / 4096 < 0x10 by omega)]; simp only [Nat.add_comm]
  · rw [if_neg h3, if_neg h3, Nat.mod_eq_of_lt (show n / 262144 < 0x08 by omega)]; simp only [Nat.add_comm]

end BtcHd.Text
