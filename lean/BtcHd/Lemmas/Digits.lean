/-
Positional notation shared by Base58 and the 8-to-5-bit regrouping of Bech32: bridges from the model's
loops to Mathlib's `Nat.digits` / `Nat.ofDigits`, the facts about groups of bits that `createChecksum`
and `convertbits` need (between `horner` and `digitsBE`), and the normal form of a string of digits (a
run of zero digits, then the minimal notation of its value).
-/
import Mathlib.Data.Nat.Digits.Lemmas
import BtcHd.Lemmas.Basics

namespace BtcHd.Digits
open BtcHd Basics

/-- Horner evaluation, most significant digit first (the shape of every
accumulation loop in the repository). -/
def horner (b : Nat) (ds : List Nat) (acc : Nat) : Nat := ds.foldl (fun a d => a * b + d) acc

theorem horner_nil (b acc : Nat) : horner b [] acc = acc := rfl

theorem horner_cons (b d : Nat) (ds : List Nat) (acc : Nat) :
    horner b (d :: ds) acc = horner b ds (acc * b + d) := rfl

theorem horner_append (b : Nat) (xs ys : List Nat) (acc : Nat) :
    horner b (xs ++ ys) acc = horner b ys (horner b xs acc) := by
  simp [horner]

theorem horner_snoc (b : Nat) (l : List Nat) (d acc : Nat) :
    horner b (l ++ [d]) acc = horner b l acc * b + d := by
  rw [horner_append]; rfl

theorem horner_eq (b : Nat) (ds : List Nat) (acc : Nat) :
    horner b ds acc = acc * b ^ ds.length + Nat.ofDigits b ds.reverse := by
  induction ds generalizing acc with
  | nil => simp [horner]
  | cons d ds ih =>
    rw [horner_cons, ih, List.reverse_cons, Nat.ofDigits_append, Nat.ofDigits_singleton,
      List.length_reverse, List.length_cons]
    ring

theorem horner_zero (b : Nat) (ds : List Nat) : horner b ds 0 = Nat.ofDigits b ds.reverse := by
  rw [horner_eq]; simp

theorem horner_replicate_zero (b k : Nat) : horner b (List.replicate k 0) 0 = 0 := by
  induction k with
  | zero => rfl
  | succ k ih => rw [List.replicate_succ, horner_cons]; simpa using ih

theorem le_horner {b : Nat} (hb : 0 < b) : ∀ (ds : List Nat) (acc : Nat), acc ≤ horner b ds acc
  | [], _ => Nat.le_refl _
  | _ :: ds, acc =>
    Nat.le_trans (Nat.le_trans (Nat.le_mul_of_pos_right acc hb) (Nat.le_add_right _ _))
      (le_horner hb ds _)

theorem horner_inj {b : Nat} (hb : 1 < b) {xs ys : List Nat} (hlen : xs.length = ys.length)
    (hx : ∀ x ∈ xs, x < b) (hy : ∀ y ∈ ys, y < b) (h : horner b xs 0 = horner b ys 0) : xs = ys := by
  rw [horner_zero, horner_zero] at h
  have := Nat.ofDigits_inj_of_len_eq hb (by simpa using hlen)
    (fun l hl => hx l (List.mem_reverse.mp hl)) (fun l hl => hy l (List.mem_reverse.mp hl)) h
  exact List.reverse_injective this

theorem shiftLeft_xor_of_lt {k s : Nat} (d : Nat) (hs : s < 2 ^ k) :
    (d <<< k) ^^^ s = d * 2 ^ k + s := by
  rw [← Nat.div_add_mod' (d <<< k ^^^ s) (2 ^ k), Nat.xor_div_two_pow, Nat.xor_mod_two_pow,
    Nat.shiftLeft_eq, Nat.mul_div_cancel _ (Nat.two_pow_pos k), Nat.mul_mod_left,
    Nat.div_eq_of_lt hs, Nat.mod_eq_of_lt hs, Nat.xor_zero, Nat.zero_xor]

theorem ofDigits_groups (k x : Nat) : ∀ n : Nat,
    Nat.ofDigits (2 ^ k) ((List.range n).map fun i => (x >>> (k * i)) &&& (2 ^ k - 1))
      = x % 2 ^ (k * n)
  | 0 => by simp [Nat.mod_one]
  | n + 1 => by
    rw [List.range_succ, List.map_append, Nat.ofDigits_append, ofDigits_groups k x n,
      List.map_singleton, Nat.ofDigits_singleton, List.length_map, List.length_range,
      Nat.and_two_pow_sub_one_eq_mod, Nat.shiftRight_eq_div_pow, ← Nat.pow_mul, Nat.mul_succ,
      Nat.pow_add, Nat.mod_mul]

theorem mod_two_pow_div_mod (x s t B : Nat) (h : s + t ≤ B) :
    x % 2 ^ B / 2 ^ s % 2 ^ t = x / 2 ^ s % 2 ^ t := by
  rw [← pow_mul_pow_sub 2 (Nat.le_of_add_right_le h), Nat.mod_mul_right_div_self, Nat.mod_mod_of_dvd]
  exact Nat.pow_dvd_pow 2 (by omega)

/-- the minimal notation of `n`, most significant digit first -/
def digitsBE (b n : Nat) : List Nat := (Nat.digits b n).reverse

theorem horner_digitsBE (b n : Nat) : horner b (digitsBE b n) 0 = n := by
  rw [horner_zero, digitsBE, List.reverse_reverse, Nat.ofDigits_digits]

theorem digitsBE_lt {b n d : Nat} (hb : 1 < b) (h : d ∈ digitsBE b n) : d < b := by
  rw [digitsBE, List.mem_reverse] at h
  exact Nat.digits_lt_base hb h

theorem digitsBE_zero (b : Nat) : digitsBE b 0 = [] := by simp [digitsBE]

theorem digitsBE_step {b n : Nat} (hb : 1 < b) (hn : 0 < n) :
    digitsBE b n = digitsBE b (n / b) ++ [n % b] := by
  rw [digitsBE, Nat.digits_def' hb hn, List.reverse_cons, digitsBE]

theorem digitsBE_eq_nil_iff {b n : Nat} : digitsBE b n = [] ↔ n = 0 := by
  simp [digitsBE, Nat.digits_eq_nil_iff_eq_zero]

theorem digitsBE_head_ne_zero {b n : Nat} : (digitsBE b n).head? ≠ some 0 := by
  intro h
  have hne : Nat.digits b n ≠ [] := fun e => by simp [digitsBE, e] at h
  rw [digitsBE, List.head?_reverse, List.getLast?_eq_some_getLast hne] at h
  exact Nat.getLast_digit_ne_zero b (fun e => hne (by simp [e])) (Option.some.inj h)

theorem digitsBE_horner {b : Nat} (hb : 1 < b) (ds : List Nat) (hlt : ∀ d ∈ ds, d < b)
    (hhead : ds.head? ≠ some 0) : digitsBE b (horner b ds 0) = ds := by
  rw [horner_zero, digitsBE, Nat.digits_ofDigits b hb _ (fun l hl => hlt l (List.mem_reverse.mp hl)),
    List.reverse_reverse]
  intro hne
  rw [List.getLast_reverse]
  intro h0
  exact hhead (by rw [List.head?_eq_some_head (by simpa using hne), h0])

theorem digitsBE_of_bounds {b : Nat} (hb : 1 < b) :
    ∀ (m N : Nat), b ^ m ≤ N → N < b ^ (m + 1) →
      ∃ rest, digitsBE b N = N / b ^ m :: rest ∧ rest.length = m := by
  have hb0 : 0 < b := by omega
  intro m
  induction m with
  | zero =>
    intro N h1 h2
    rw [Nat.pow_one] at h2
    refine ⟨[], ?_, rfl⟩
    rw [digitsBE_step hb h1, Nat.div_eq_of_lt h2, digitsBE_zero, Nat.mod_eq_of_lt h2, Nat.pow_zero,
      Nat.div_one]
    rfl
  | succ m ih =>
    intro N h1 h2
    have hN : 0 < N := Nat.lt_of_lt_of_le (Nat.pow_pos hb0) h1
    obtain ⟨rest, hr, hl⟩ := ih (N / b) ((Nat.le_div_iff_mul_le hb0).mpr h1)
      ((Nat.div_lt_iff_lt_mul hb0).mpr h2)
    refine ⟨rest ++ [N % b], ?_, by simp [hl]⟩
    rw [digitsBE_step hb hN, hr, Nat.div_div_eq_div_mul, Nat.pow_succ, Nat.mul_comm b]
    rfl

/-! ### strings of digits

A string written with the digits `e 0, e 1, …, e (b - 1)` (read back by `r`) is a run of the zero digit
followed by the minimal notation of its value, and the pair (length of the run, value) determines it.
Both sides of Base58 are such strings: bytes with `UInt8.ofNat` / `UInt8.toNat` in base 256, characters
with `BASE58_ALPHABET[·]` / `.index` in base 58. -/

variable {α : Type}

section
variable [DecidableEq α]

/-- the number of leading occurrences of `z` -/
def lead (z : α) : List α → Nat
  | [] => 0
  | a :: l => if a = z then lead z l + 1 else 0

theorem lead_replicate_append (z : α) (k : Nat) {t : List α} (h : t.head? ≠ some z) :
    lead z (List.replicate k z ++ t) = k := by
  induction k with
  | zero =>
    cases t with
    | nil => rfl
    | cons a t => exact if_neg fun e => h (by rw [List.head?_cons, e])
  | succ k ih => rw [List.replicate_succ, List.cons_append, lead, if_pos rfl, ih]

theorem exists_eq_replicate_lead_append (z : α) (l : List α) :
    ∃ t, l = List.replicate (lead z l) z ++ t ∧ t.head? ≠ some z := by
  induction l with
  | nil => exact ⟨[], rfl, nofun⟩
  | cons a l ih =>
    by_cases ha : a = z
    · obtain ⟨t, h1, h2⟩ := ih
      exact ⟨t, by rw [lead, if_pos ha, List.replicate_succ, List.cons_append, ← h1, ha], h2⟩
    · exact ⟨a :: l, by rw [lead, if_neg ha]; rfl, fun e => ha (Option.some.inj e)⟩

/-- the run as Python's `s[:-1]` sees it: one shorter when nothing follows it -/
theorem lead_dropLast (z : α) (k : Nat) {t : List α} (h : t.head? ≠ some z) :
    lead z (List.replicate k z ++ t).dropLast = if t = [] then k - 1 else k := by
  split
  · next ht =>
    subst ht
    simpa using lead_replicate_append z (k - 1) (t := []) nofun
  · next ht =>
    rw [List.dropLast_append_of_ne_nil ht]
    apply lead_replicate_append
    -- dropping the last element of `t` leaves its head alone, or leaves nothing
    cases t with
    | nil => exact absurd rfl ht
    | cons a t => cases t <;> simp_all

end

variable {b : Nat} {e : Nat → α} {r : α → Nat}

/-- `r` only serves to tell `e d` from `e 0` for `0 < d < b` -/
theorem head?_map_digitsBE_ne (hb : 1 < b) (hre : ∀ d < b, r (e d) = d) (n : Nat) :
    ((digitsBE b n).map e).head? ≠ some (e 0) := by
  rw [List.head?_map]
  intro h
  obtain ⟨d, hd, hed⟩ := Option.map_eq_some_iff.mp h
  have hd0 : d = 0 := by
    rw [← hre d (digitsBE_lt hb (List.mem_of_mem_head? hd)), hed, hre 0 (by omega)]
  exact digitsBE_head_ne_zero (hd0 ▸ hd)

theorem lead_normal [DecidableEq α] (hb : 1 < b) (hre : ∀ d < b, r (e d) = d) (k n : Nat) :
    lead (e 0) (List.replicate k (e 0) ++ (digitsBE b n).map e) = k :=
  lead_replicate_append _ _ (head?_map_digitsBE_ne hb hre n)

theorem horner_normal (hb : 1 < b) (hre : ∀ d < b, r (e d) = d) (k n : Nat) :
    horner b ((List.replicate k (e 0) ++ (digitsBE b n).map e).map r) 0 = n := by
  rw [List.map_append, List.map_replicate, hre 0 (by omega),
    map_map_cancel fun d hd => hre d (digitsBE_lt hb hd), horner_append, horner_replicate_zero,
    horner_digitsBE]

theorem eq_normal [DecidableEq α] (hb : 1 < b) (hre : ∀ d < b, r (e d) = d) (l : List α)
    (hl : ∀ a ∈ l, r a < b ∧ e (r a) = a) :
    l = List.replicate (lead (e 0) l) (e 0) ++ (digitsBE b (horner b (l.map r) 0)).map e := by
  obtain ⟨t, h1, h2⟩ := exists_eq_replicate_lead_append (e 0) l
  have ht : ∀ a ∈ t, r a < b ∧ e (r a) = a := fun a ha =>
    hl a (h1 ▸ List.mem_append_right _ ha)
  have hhead : (t.map r).head? ≠ some 0 := by
    rw [List.head?_map]
    intro h
    obtain ⟨a, ha, ha0⟩ := Option.map_eq_some_iff.mp h
    exact h2 (by rw [ha, ← (ht a (List.mem_of_mem_head? ha)).2, ha0])
  have hv : (digitsBE b (horner b (l.map r) 0)).map e = t := by
    rw [h1, List.map_append, List.map_replicate, hre 0 (by omega), horner_append,
      horner_replicate_zero,
      digitsBE_horner hb _ (fun d hd => by
        obtain ⟨a, ha, rfl⟩ := List.mem_map.mp hd
        exact (ht a ha).1) hhead,
      map_map_cancel fun a ha => (ht a ha).2]
  rw [hv]
  exact h1

end BtcHd.Digits
