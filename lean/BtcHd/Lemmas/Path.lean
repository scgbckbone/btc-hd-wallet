/-
Path strings (C17): the two equations of `convertHardened` and its exact description; `parse` as `parseParts` of the
pieces of the split (`parse_of_splitOn`), on top of the slot loop `slotLevels` with its two recursion equations
(`slotLevels_cons_nil`, `slotLevels_cons`) and `slotLevels_eq_some_iff`; `parse` on joined components; the two spellings
of the hardened marker.
-/
import Mathlib.Data.List.Forall2
import BtcHd.Lemmas.Basics
import BtcHd.Model.Path

namespace BtcHd.Path
open BtcHd Text

theorem convertHardened_nil : convertHardened [] = none := rfl

theorem convertHardened_marked {d : List Char} {m : Char} (hm : m = '\'' ∨ m = 'h') :
    convertHardened (d ++ [m]) =
      (parseDec d).bind fun num => if num < 2 ^ 31 then some (num + 2 ^ 31) else none := by
  unfold convertHardened
  simp only [List.getLast?_append, List.getLast?_singleton, Option.some_or, hm, if_true,
    List.dropLast_concat]

theorem convertHardened_unmarked {c : List Char} {l : Char} (hl : c.getLast? = some l)
    (h1 : l ≠ '\'') (h2 : l ≠ 'h') :
    convertHardened c =
      (parseDec c).bind fun num => if num < 2 ^ 32 then some num else none := by
  unfold convertHardened
  simp only [hl, h1, h2, or_self, if_false]

theorem convertHardened_h_eq_tick (d : List Char) :
    convertHardened (d ++ ['h']) = convertHardened (d ++ ['\'']) := by
  rw [convertHardened_marked (Or.inr rfl), convertHardened_marked (Or.inl rfl)]

/-- the range check that follows `int(digits)` in both branches -/
theorem parseDec_bind_eq_some {d : List Char} {B k v : Nat} :
    ((parseDec d).bind fun num => if num < B then some (num + k) else none) = some v ↔
      IsDec d ∧ decVal d < B ∧ v = decVal d + k := by
  simp only [Option.bind_eq_some_iff, parseDec_eq_some_iff, Option.ite_none_right_eq_some,
    Option.some.injEq]
  constructor
  · rintro ⟨_, ⟨hd, rfl⟩, hlt, rfl⟩; exact ⟨hd, hlt, rfl⟩
  · rintro ⟨hd, hlt, rfl⟩; exact ⟨_, ⟨hd, rfl⟩, hlt, rfl⟩

theorem convertHardened_eq_some_iff {c : List Char} {v : Nat} :
    convertHardened c = some v ↔
      (∃ d, (c = d ++ ['\''] ∨ c = d ++ ['h']) ∧ IsDec d ∧ decVal d < 2 ^ 31
          ∧ v = decVal d + 2 ^ 31)
      ∨ (IsDec c ∧ decVal c < 2 ^ 32 ∧ v = decVal c) := by
  rcases List.eq_nil_or_concat c with rfl | ⟨d, l, rfl⟩
  · simp [convertHardened_nil, IsDec]
  rw [List.concat_eq_append]
  by_cases hm : l = '\'' ∨ l = 'h'
  · -- marked: only the first alternative is possible, with the same `d`
    have hnd : ¬ IsDec (d ++ [l]) := fun h =>
      h.not_mem (c := l) (by rcases hm with rfl | rfl <;> decide) (by simp)
    rw [convertHardened_marked hm, parseDec_bind_eq_some]
    constructor
    · exact fun h => Or.inl ⟨d, by rcases hm with rfl | rfl <;> simp, h⟩
    · rintro (⟨d', hc, h⟩ | ⟨h, _⟩)
      · obtain rfl : d = d' := by rcases hc with hc | hc <;> exact (List.append_inj' hc rfl).1
        exact h
      · exact absurd h hnd
  · -- unmarked: only the second alternative is possible
    rw [convertHardened_unmarked (l := l) (by simp) (fun e => hm (Or.inl e)) fun e => hm (Or.inr e)]
    refine (parseDec_bind_eq_some (k := 0)).trans ⟨Or.inr, ?_⟩
    rintro (⟨d', hc, _⟩ | h)
    · rcases hc with hc | hc
      · exact absurd (Or.inl (List.singleton_inj.mp (List.append_inj' hc rfl).2)) hm
      · exact absurd (Or.inr (List.singleton_inj.mp (List.append_inj' hc rfl).2)) hm
    · exact h

theorem convertHardened_lt {c : List Char} {v : Nat} (h : convertHardened c = some v) :
    v < 2 ^ 32 := by
  rcases convertHardened_eq_some_iff.mp h with ⟨d, _, _, hlt, rfl⟩ | ⟨_, hlt, rfl⟩
  · omega
  · exact hlt

theorem convertHardened_ne_nil {c : List Char} {v : Nat} (h : convertHardened c = some v) :
    c ≠ [] := by
  rintro rfl; cases h

/-- components that convert consist of digits and at most a final marker -/
theorem not_mem_of_map_convertHardened {comps : List (List Char)} {is : List Nat}
    (h : comps.map convertHardened = is.map some) {x : Char}
    (hx : x.isDigit = false ∧ x ≠ '\'' ∧ x ≠ 'h') : ∀ c ∈ comps, x ∉ c := by
  intro c hc
  obtain ⟨v, _, e⟩ := List.mem_map.mp (h ▸ List.mem_map_of_mem hc)
  rcases convertHardened_eq_some_iff.mp e.symm with ⟨d, hc, hd, _, _⟩ | ⟨hd, _, _⟩
  · intro hm
    have hnd : x ∉ d := hd.not_mem hx.1
    rcases hc with rfl | rfl <;> simp [hnd, hx.2.1, hx.2.2] at hm
  · exact hd.not_mem hx.1

theorem convertHardened_reprHardened {i : Nat} (hi : i < 2 ^ 32) :
    convertHardened (reprHardened i) = some i := by
  unfold reprHardened
  split
  · rw [convertHardened_marked (Or.inl rfl), parseDec_natToDec, Option.bind_some, if_pos (by omega)]
    congr 1
    omega
  · -- the last character of `str(i)` is a digit, not a marker
    obtain ⟨l, hl, hd⟩ := (isDec_natToDec i).getLast?_isDigit
    have hl' : ∀ m, m.isDigit = false → l ≠ m := fun m hm e => by rw [e, hm] at hd; cases hd
    rw [convertHardened_unmarked hl (hl' _ (by decide)) (hl' _ (by decide)), parseDec_natToDec,
      Option.bind_some, if_pos hi]

theorem reprHardened_ne_nil (i : Nat) : reprHardened i ≠ [] := by
  unfold reprHardened
  split
  · simp
  · exact (isDec_natToDec _).1

/-- one slot of `parse`: `convert_hardened(x) if x else None` -/
def slot (c : List Char) : Option (Option Nat) :=
  if c = [] then some none else (convertHardened c).map some

/-- the loop over the slots followed by `integrity_check`: the levels, unless a value follows a `None` -/
def slotLevels (cs : List (List Char)) : Option (List Nat) :=
  (cs.mapM slot).bind fun vals => if integrity vals then some (vals.filterMap id) else none

/-- the body of `parse` after the split -/
def parseParts (root : List Char) (comps : List (List Char)) : Option Path :=
  if root = ['m'] ∨ root = ['M'] then
    (slotLevels (comps.take 5)).map fun lv => ⟨lv, root = ['m']⟩
  else none

theorem parse_of_splitOn {s root : List Char} {comps : List (List Char)}
    (h : splitOn '/' s = root :: comps) : parse s = parseParts root comps := by
  unfold parse parseParts slotLevels slot
  rw [h]
  simp only
  split
  · generalize List.mapM (m := Option) _ (List.take 5 comps) = r
    cases r with
    | none => rfl
    | some vals => simp only [Option.bind_some]; split <;> rfl
  · rfl

theorem slot_nil : slot [] = some none := rfl

theorem slot_of_ne_nil {c : List Char} (h : c ≠ []) : slot c = (convertHardened c).map some :=
  if_neg h

theorem slotLevels_nil : slotLevels [] = some [] := rfl

theorem integrity_cons_some (v : Nat) (vs : List (Option Nat)) :
    integrity (some v :: vs) = integrity vs := rfl

theorem all_isNone_iff {vs : List (Option Nat)} :
    vs.all Option.isNone = true ↔ integrity vs = true ∧ vs.filterMap id = [] := by
  induction vs with
  | nil => simp [integrity]
  | cons a vs ih => cases a <;> simp [integrity, ih]

theorem slotLevels_cons_nil (cs : List (List Char)) :
    slotLevels ([] :: cs) = (slotLevels cs).bind fun lv => if lv = [] then some [] else none := by
  unfold slotLevels
  rw [Basics.mapM_cons, slot_nil, Option.bind_some]
  cases cs.mapM slot with
  | none => rfl
  | some vs =>
    show (if vs.all Option.isNone = true then some (vs.filterMap id) else none) = _
    simp only [all_isNone_iff, Option.bind_some]
    by_cases hi : integrity vs = true <;> by_cases hf : vs.filterMap id = [] <;>
      simp only [hi, hf, and_self, and_false, false_and, if_true, if_false, Option.bind_some,
        Option.bind_none, Bool.false_eq_true]

theorem slotLevels_cons {c : List Char} (hc : c ≠ []) (cs : List (List Char)) :
    slotLevels (c :: cs) = (convertHardened c).bind fun v => (slotLevels cs).map (v :: ·) := by
  unfold slotLevels
  rw [Basics.mapM_cons, slot_of_ne_nil hc]
  cases convertHardened c with
  | none => rfl
  | some v =>
    cases cs.mapM slot with
    | none => rfl
    | some vs =>
      show (if integrity vs = true then some (v :: vs.filterMap id) else none) = _
      simp only [Option.bind_some]
      split <;> rfl

theorem slotLevels_append_nils (cs : List (List Char)) (k : Nat) :
    slotLevels (cs ++ List.replicate k []) = slotLevels cs := by
  induction cs with
  | nil =>
    induction k with
    | zero => rfl
    | succ k ih =>
      rw [List.nil_append] at ih ⊢
      rw [List.replicate_succ, slotLevels_cons_nil, ih]
      rfl
  | cons c cs ih =>
    by_cases hc : c = []
    · subst hc; rw [List.cons_append, slotLevels_cons_nil, slotLevels_cons_nil, ih]
    · rw [List.cons_append, slotLevels_cons hc, slotLevels_cons hc, ih]

theorem slotLevels_eq_some_iff {cs : List (List Char)} {lv : List Nat} :
    slotLevels cs = some lv ↔
      (cs.take lv.length).map convertHardened = lv.map some ∧ ∀ c ∈ cs.drop lv.length, c = [] := by
  -- both sides peel one component at a time
  induction cs generalizing lv with
  | nil => cases lv <;> simp [slotLevels_nil]
  | cons c cs ih =>
    by_cases hc : c = []
    · subst hc
      cases lv <;> simp [slotLevels_cons_nil, Option.bind_eq_some_iff, ih, convertHardened_nil]
    · cases lv with
      | nil => simp [slotLevels_cons hc, Option.bind_eq_some_iff, hc]
      | cons a l =>
        simp only [List.length_cons, List.take_succ_cons, List.drop_succ_cons, List.map_cons,
          List.cons.injEq, and_assoc, ← ih]
        simp [slotLevels_cons hc, Option.bind_eq_some_iff]

theorem parseParts_eq_some_iff {root : List Char} {comps : List (List Char)} {p : Path} :
    parseParts root comps = some p ↔
      (root = ['m'] ∨ root = ['M']) ∧ p.priv = decide (root = ['m']) ∧ p.levels.length ≤ 5 ∧
      (comps.take p.levels.length).map convertHardened = p.levels.map some ∧
      ∀ c ∈ (comps.take 5).drop p.levels.length, c = [] := by
  unfold parseParts
  by_cases hr : root = ['m'] ∨ root = ['M']
  · rw [if_pos hr, Option.map_eq_some_iff]
    constructor
    · rintro ⟨lv, hlv, rfl⟩
      obtain ⟨h1, h2⟩ := slotLevels_eq_some_iff.mp hlv
      have hlen : lv.length ≤ 5 := by
        have := congrArg List.length h1
        simp only [List.length_map, List.length_take] at this
        omega
      refine ⟨hr, rfl, hlen, ?_, h2⟩
      rw [List.take_take, Nat.min_eq_left hlen] at h1
      exact h1
    · rintro ⟨_, hp, hlen, h1, h2⟩
      refine ⟨p.levels, slotLevels_eq_some_iff.mpr ⟨?_, h2⟩, ?_⟩
      · rw [List.take_take, Nat.min_eq_left hlen]; exact h1
      · cases p; simp only at hp; rw [hp]
  · rw [if_neg hr]
    exact ⟨nofun, fun h => absurd h.1 hr⟩

theorem parseParts_some_mem {root : List Char} {comps : List (List Char)} {p : Path}
    (h : parseParts root comps = some p) {c : List Char} (hc : c ∈ comps.take 5) :
    c = [] ∨ ∃ v ∈ p.levels, convertHardened c = some v := by
  obtain ⟨_, _, hlen, h1, h2⟩ := parseParts_eq_some_iff.mp h
  rw [← List.take_append_drop p.levels.length (comps.take 5), List.mem_append] at hc
  rcases hc with hc | hc
  · rw [List.take_take, Nat.min_eq_left hlen] at hc
    obtain ⟨v, hv, e⟩ := List.mem_map.mp (h1 ▸ List.mem_map_of_mem (f := convertHardened) hc)
    exact Or.inr ⟨v, hv, e.symm⟩
  · exact Or.inl (h2 c hc)

theorem parseParts_eq_none {root c : List Char} {comps : List (List Char)}
    (hc : c ∈ comps.take 5) (hne : c ≠ []) (h : ∀ v, convertHardened c ≠ some v) :
    parseParts root comps = none := by
  refine Option.eq_none_iff_forall_ne_some.mpr fun p hp => ?_
  rcases parseParts_some_mem hp hc with rfl | ⟨v, _, hv⟩
  · exact hne rfl
  · exact h v hv

theorem parseParts_take (root : List Char) (comps : List (List Char)) :
    parseParts root (comps.take 5) = parseParts root comps := by
  unfold parseParts
  rw [List.take_take, Nat.min_self]

/-- `list_get` at the five positions: a missing component reads like an empty one -/
theorem parseParts_getD (root : List Char) (comps : List (List Char)) :
    parseParts root [comps[0]?.getD [], comps[1]?.getD [], comps[2]?.getD [], comps[3]?.getD [],
      comps[4]?.getD []] = parseParts root comps := by
  have : [comps[0]?.getD [], comps[1]?.getD [], comps[2]?.getD [], comps[3]?.getD [],
      comps[4]?.getD []] = comps.take 5 ++ List.replicate (5 - (comps.take 5).length) [] := by
    rcases comps with _ | ⟨a, _ | ⟨b, _ | ⟨c, _ | ⟨d, _ | ⟨e, r⟩⟩⟩⟩⟩ <;> rfl
  unfold parseParts
  rw [this, List.take_of_length_le (by simp; omega), slotLevels_append_nils]

theorem parse_join {root : List Char} {comps : List (List Char)} (hroot : '/' ∉ root)
    (hno : ∀ c ∈ comps, '/' ∉ c) : parse (join ['/'] (root :: comps)) = parseParts root comps :=
  parse_of_splitOn (splitOn_join_sep (List.forall_mem_cons.mpr ⟨hroot, hno⟩) (by simp))

theorem parse_join_of_convert {root : List Char} {comps : List (List Char)} {is : List Nat}
    (hroot : root = ['m'] ∨ root = ['M']) (hlen : comps.length ≤ 5)
    (hconv : comps.map convertHardened = is.map some) :
    parse (join ['/'] (root :: comps)) = some ⟨is, decide (root = ['m'])⟩ := by
  have hl : is.length = comps.length := by simpa using (congrArg List.length hconv).symm
  rw [parse_join (by rcases hroot with rfl | rfl <;> decide)
    (not_mem_of_map_convertHardened hconv (by decide))]
  refine parseParts_eq_some_iff.mpr ⟨hroot, rfl, by simp only; omega, ?_, ?_⟩
  · simpa only [hl, List.take_length] using hconv
  · simp [hl, List.take_of_length_le hlen]

/-- two components that differ at most in the spelling of a final hardened marker -/
def SameUpToMarker (c c' : List Char) : Prop :=
  c = c' ∨ ∃ d, (c = d ++ ['h'] ∨ c = d ++ ['\'']) ∧ (c' = d ++ ['h'] ∨ c' = d ++ ['\''])

theorem SameUpToMarker.slot_eq {c c' : List Char} (h : SameUpToMarker c c') : slot c = slot c' := by
  rcases h with rfl | ⟨d, h1, h2⟩
  · rfl
  · -- both spellings have the slot of the one with `'`
    have key {c : List Char} (h : c = d ++ ['h'] ∨ c = d ++ ['\'']) : slot c = slot (d ++ ['\'']) := by
      rcases h with rfl | rfl
      · rw [slot_of_ne_nil (by simp), slot_of_ne_nil (by simp), convertHardened_h_eq_tick]
      · rfl
    rw [key h1, key h2]

theorem SameUpToMarker.slash_iff {c c' : List Char} (h : SameUpToMarker c c') :
    '/' ∈ c ↔ '/' ∈ c' := by
  rcases h with rfl | ⟨d, h1, h2⟩
  · rfl
  · rcases h1 with rfl | rfl <;> rcases h2 with rfl | rfl <;> simp

theorem parseParts_congr {cs cs' : List (List Char)} (h : List.Forall₂ SameUpToMarker cs cs')
    (root : List Char) : parseParts root cs = parseParts root cs' := by
  have key {l l' : List (List Char)} (h : List.Forall₂ SameUpToMarker l l') :
      l.mapM slot = l'.mapM slot := by
    induction h with
    | nil => rfl
    | cons hc _ ih => rw [Basics.mapM_cons, Basics.mapM_cons, hc.slot_eq, ih]
  unfold parseParts slotLevels
  rw [key (List.forall₂_take 5 h)]

theorem forall₂_slash {cs cs' : List (List Char)} (h : List.Forall₂ SameUpToMarker cs cs')
    (hno : ∀ c ∈ cs, '/' ∉ c) : ∀ c ∈ cs', '/' ∉ c := by
  induction h with
  | nil => simp
  | cons hc _ ih =>
    rw [List.forall_mem_cons] at hno ⊢
    exact ⟨fun hs => hno.1 (hc.slash_iff.mpr hs), ih hno.2⟩

end BtcHd.Path
