/-
Lemmas about the wallet model (`Model/Wallet.lean`): what the constructors return (`Built`), the
report seen through the records `Row` / `Acct` instead of JSON, and what an account block contains
(`bipAccount_spec`; with a root master: `AcctOk`).
-/
import BtcHd.Lemmas.Basics
import BtcHd.Lemmas.Bip32
import BtcHd.Model.Wallet

namespace BtcHd.Wallet
open BtcHd Keys Bip32 Basics

variable {Pt : Type}

theorem mapM_opt_of_forall {α β : Type} {f : α → Option β} {g : α → β} {xs : List α}
    (h : ∀ x ∈ xs, f x = some (g x)) : xs.mapM f = some (xs.map g) :=
  mapM_eq_some_map h

theorem mapM_opt_map {α β γ : Type} (f : α → Option β) (g : β → γ) (xs : List α) :
    xs.mapM (fun x => (f x).map g) = (xs.mapM f).map (List.map g) := by
  induction xs with
  | nil => rfl
  | cons x xs ih =>
    rw [mapM_cons, mapM_cons, ih]
    cases f x <;> cases xs.mapM f <;> rfl

theorem ckd_testnet {P : Prims Pt} {nd c : Node} {i : Nat} (h : ckd P nd i = some c) :
    c.testnet = nd.testnet :=
  Bip32.ckd_testnet h

theorem generateChildren_spec {P : Prims Pt} {nd : Node} {a b : Nat} {cs : List Node}
    (h : generateChildren P nd a b = some cs) :
    cs.length = b - a ∧ ∀ i, i < b - a → ∃ c, cs[i]? = some c ∧ ckd P nd (a + i) = some c := by
  unfold generateChildren at h
  refine ⟨by rw [length_of_mapM_eq_some h, List.length_range'], fun i hi => ?_⟩
  exact getElem?_of_mapM_eq_some h (by rw [List.getElem?_range' hi, Nat.one_mul])

/-! ### What the constructors return -/

/-- what a seed-based constructor returns for network `t`, mnemonic `mn`, passphrase `pw` -/
structure Built (t : Bool) (mn pw : Option (List Char)) (w : Wallet) : Prop where
  testnet : w.testnet = t
  master_testnet : w.master.testnet = t
  isPrv : w.master.isPrv = true
  root : w.master.path = []
  mnemonic : w.mnemonic = mn
  password : w.password = pw

theorem fromSeedBytes_eq_some {P : Prims Pt} {seed : Bytes} {t : Bool} {w : Wallet} :
    fromSeedBytes P seed t = some w ↔ ∃ m, masterKey P seed t = some m ∧ w = ⟨m, t, none, none⟩ := by
  unfold fromSeedBytes
  rw [Option.map_eq_some_iff]
  exact exists_congr fun m => and_congr_right fun _ => eq_comm

theorem fromMnemonic_eq_some {P : Prims Pt} {mn pw : List Char} {t : Bool} {w : Wallet}
    (h : fromMnemonic P mn pw t = some w) :
    ∃ m, masterKey P (Bip39.seedFromMnemonic P mn pw) t = some m ∧ w = ⟨m, t, some mn, some pw⟩ := by
  obtain ⟨_, hw, rfl⟩ := Option.map_eq_some_iff.mp h
  obtain ⟨m, hm, rfl⟩ := fromSeedBytes_eq_some.mp hw
  exact ⟨m, hm, rfl⟩

theorem fromSeedBytes_fields {P : Prims Pt} {seed : Bytes} {t : Bool} {w : Wallet}
    (h : fromSeedBytes P seed t = some w) : Built t none none w := by
  obtain ⟨m, hm, rfl⟩ := fromSeedBytes_eq_some.mp h
  obtain ⟨_, rfl⟩ := masterKey_eq_some.mp hm
  exact ⟨rfl, rfl, rfl, rfl, rfl, rfl⟩

theorem fromSeedHex_fields {P : Prims Pt} {s : List Char} {t : Bool} {w : Wallet}
    (h : fromSeedHex P s t = some w) : Built t none none w := by
  unfold fromSeedHex at h
  obtain ⟨seed, _, h⟩ := Option.bind_eq_some_iff.mp h
  exact fromSeedBytes_fields h

theorem fromMnemonic_fields {P : Prims Pt} {m p : List Char} {t : Bool} {w : Wallet}
    (h : fromMnemonic P m p t = some w) : Built t (some m) (some p) w := by
  obtain ⟨m0, hm, rfl⟩ := fromMnemonic_eq_some h
  obtain ⟨_, rfl⟩ := masterKey_eq_some.mp hm
  exact ⟨rfl, rfl, rfl, rfl, rfl, rfl⟩

theorem fromEntropyHex_fields {P : Prims Pt} {e p : List Char} {t : Bool} {w : Wallet}
    (h : fromEntropyHex P e p t = some w) :
    ∃ m, Bip39.mnemonicFromEntropy P.sha256 e = some m ∧ Built t (some m) (some p) w := by
  unfold fromEntropyHex at h
  obtain ⟨m, hm, h⟩ := Option.bind_eq_some_iff.mp h
  exact ⟨m, hm, fromMnemonic_fields h⟩

theorem newWallet_fields {P : Prims Pt} {rnd : Nat → Bytes} {n : Nat} {p : List Char} {t : Bool}
    {w : Wallet} (h : newWallet P rnd n p t = some w) :
    ∃ bits m, (n, bits) ∈ Generated.lenToBits ∧
      Bip39.mnemonicFromEntropyBits P.sha256 rnd bits = some m ∧ Built t (some m) (some p) w := by
  unfold newWallet at h
  obtain ⟨bits, hb, h2⟩ := Option.bind_eq_some_iff.mp h
  obtain ⟨m, hm, h3⟩ := Option.bind_eq_some_iff.mp h2
  obtain ⟨⟨n', bits⟩, he, rfl⟩ := Option.map_eq_some_iff.mp hb
  obtain rfl : n' = n := by simpa using List.find?_some he
  exact ⟨bits, m, List.mem_of_find?_eq_some he, hm, fromMnemonic_fields h3⟩

theorem fromExtendedKey_fields {P : Prims Pt} {k : List Char} {w : Wallet}
    (h : fromExtendedKey P k = some w) : w.master.path = [] ∧ w.testnet = w.master.testnet := by
  unfold fromExtendedKey parseStr at h
  obtain ⟨_, _, h⟩ := Option.bind_eq_some_iff.mp h
  obtain ⟨_, _, h⟩ := Option.bind_eq_some_iff.mp h
  obtain ⟨_, hn, rfl⟩ := Option.map_eq_some_iff.mp h
  obtain ⟨_, _, rfl⟩ := Option.map_eq_some_iff.mp hn
  exact ⟨rfl, rfl⟩

theorem parseBytes_fields (isPrv t : Bool) (s : Bytes) :
    (parseBytes isPrv t s).isPrv = isPrv ∧ (parseBytes isPrv t s).testnet = t ∧
      (parseBytes isPrv t s).path = [] :=
  ⟨rfl, rfl, rfl⟩

/-! ### The report as records -/

/-- one printed row: path, address, SEC hex, WIF (`None` on a watch-only wallet) -/
structure Row where
  path : List Char
  addr : List Char
  sec : List Char
  wif : Option (List Char)

/-- the row as `group` emits it: `[path, address, sec, wif]` -/
def Row.toJson (r : Row) : Json := .arr [.str r.path, .str r.addr, .str r.sec, optStr r.wif]

/-- the row as `paranoia_mode` leaves it (`group[:-1]`) -/
def Row.toPublicJson (r : Row) : Json := .arr [.str r.path, .str r.addr, .str r.sec]

/-- one account block of the report: the account node's path and extended keys, and its rows -/
structure Acct where
  path : List Char
  pub : List Char
  prv : Option (List Char)
  rows : List Row

/-- the `account_extended_keys` dictionary -/
def Acct.keysJson (v : Acct) : Json :=
  .obj [("path".toList, .str v.path), ("pub".toList, .str v.pub), ("prv".toList, optStr v.prv)]

/-- the pair `(acct_ext_keys, groups)` returned by `bip44` / `bip49` / `bip84` -/
def Acct.toPair (v : Acct) : Json × List Json := (v.keysJson, v.rows.map Row.toJson)

/-- the account block as `paranoia_mode` rebuilds it: `path` and `pub` only, rows without WIF -/
def Acct.toPublicJson (v : Acct) : Json :=
  .obj [("account_extended_keys".toList, .obj [("path".toList, .str v.path), ("pub".toList, .str v.pub)]),
        ("groups".toList, .arr (v.rows.map Row.toPublicJson))]

/-- the coin-type level of the wallet's network: `0'` on mainnet, `1'` on testnet -/
def coinLevel (w : Wallet) : Nat := (if w.testnet then 1 else 0) + 2 ^ 31

/-- the account path `purpose' / coin' / account'` as an index list -/
def acctLevels (w : Wallet) (purpose acct : Nat) : List Nat :=
  [purpose + 2 ^ 31, coinLevel w, acct + 2 ^ 31]

/-- the path of a row: the account path, the external chain `0`, the index -/
def rowLevels (w : Wallet) (purpose acct idx : Nat) : List Nat :=
  acctLevels w purpose acct ++ [0, idx]

theorem coinLevel_eq (w : Wallet) : coinLevel w = if w.testnet then 1 + 2 ^ 31 else 2 ^ 31 := by
  unfold coinLevel
  cases w.testnet <;> rfl

theorem rowLevels_lt (w : Wallet) {purpose acct idx : Nat} (hp : purpose < 2 ^ 31)
    (ha : acct < 2 ^ 31) (hi : idx < 2 ^ 32) : ∀ x ∈ rowLevels w purpose acct idx, x < 2 ^ 32 := by
  have hc : coinLevel w ≤ 1 + 2 ^ 31 := by rw [coinLevel_eq]; split <;> omega
  simp only [rowLevels, acctLevels, List.cons_append, List.nil_append, List.mem_cons,
    List.not_mem_nil, or_false]
  rintro x (rfl | rfl | rfl | rfl | rfl) <;> omega

theorem watchOnly_iff (w : Wallet) : w.watchOnly = true ↔ w.master.isPrv = false := by
  unfold Wallet.watchOnly
  cases w.master.isPrv <;> simp

theorem watchOnly_eq_false {w : Wallet} (h : w.master.isPrv = true) : w.watchOnly = false := by
  unfold Wallet.watchOnly
  rw [h]
  rfl

/-- one row of `group` as a record (`groupRow_eq`) -/
def rowOf (P : Prims Pt) (w : Wallet) (addr : Node → Option (List Char)) (nd : Node) : Option Row :=
  (addr nd).bind fun a => (pubKey P nd).bind fun K =>
    (if w.watchOnly then some none
      else (prvKey P nd).map fun k => some (Keys.wif P k true w.testnet)).map fun wv =>
      ⟨nodeRepr nd, a, toHex (P.curve.sec true K), wv⟩

theorem groupRow_eq (P : Prims Pt) (w : Wallet) (addr : Node → Option (List Char)) (nd : Node) :
    groupRow P w addr nd = (rowOf P w addr nd).map Row.toJson := by
  simp only [groupRow, rowOf, Row.toJson, Option.map_bind, Option.map_map, Function.comp_def]

theorem group_eq_rows (P : Prims Pt) (w : Wallet) (addr : Node → Option (List Char)) (nodes : List Node) :
    group P w addr nodes = (nodes.mapM (rowOf P w addr)).map (List.map Row.toJson) := by
  unfold group
  rw [← mapM_opt_map]
  exact congrArg (nodes.mapM ·) (funext (groupRow_eq P w addr))

theorem rowOf_of_prv {P : Prims Pt} {w : Wallet} (addr : Node → Option (List Char)) {nd : Node}
    (hw : w.master.isPrv = true) (hnd : nd.isPrv = true) :
    rowOf P w addr nd = (addr nd).bind fun a => (prvKey P nd).map fun k =>
      ⟨nodeRepr nd, a, toHex (P.curve.sec true (P.curve.mulGen k)),
        some (Keys.wif P k true w.testnet)⟩ := by
  unfold rowOf pubKey
  rw [watchOnly_eq_false hw, if_pos hnd]
  cases addr nd <;> cases prvKey P nd <;> rfl

theorem nodeExtendedPublicKey_eq_some {P : Prims Pt} {w : Wallet} {nd : Node} {s : List Char} :
    nodeExtendedPublicKey P w nd = some s ↔
      ∃ v, nodeVersionInt w nd 1 = some v ∧ extendedPublicKey P nd (some v) = some s :=
  Option.bind_eq_some_iff

theorem nodeExtendedPrivateKey_eq_some {P : Prims Pt} {w : Wallet} {nd : Node} {s : List Char} :
    nodeExtendedPrivateKey P w nd = some s ↔ nd.isPrv = true ∧
      ∃ v, nodeVersionInt w nd 0 = some v ∧ extendedPrivateKey P nd (some v) = some s := by
  unfold nodeExtendedPrivateKey
  cases nd.isPrv <;> simp [Option.bind_eq_some_iff]

theorem nodeExtendedKeys_of_prv {P : Prims Pt} {w : Wallet} (hw : w.master.isPrv = true) (nd : Node) :
    nodeExtendedKeys P w nd = (nodeExtendedPrivateKey P w nd).bind fun prv =>
      (nodeExtendedPublicKey P w nd).map fun pub => Acct.keysJson ⟨nodeRepr nd, pub, some prv, []⟩ := by
  unfold nodeExtendedKeys
  rw [watchOnly_eq_false hw]
  cases nodeExtendedPrivateKey P w nd <;> rfl

theorem bipAccount_eq_some {P : Prims Pt} {w : Wallet} {purpose : Nat}
    {addr : Node → Option (List Char)} {acct a b : Nat} {keys : Json} {rows : List Json}
    (h : bipAccount P w purpose addr acct a b = some (keys, rows)) :
    ∃ acctNd children,
      derivePath P w.master (acctLevels w purpose acct) = some acctNd ∧
      nodeExtendedKeys P w acctNd = some keys ∧
      group P w addr children = some rows ∧
      children.length = b - a ∧
      ∀ i, i < b - a → ∃ c, children[i]? = some c ∧
        derivePath P w.master (rowLevels w purpose acct (a + i)) = some c := by
  have hp : [purpose + hardened, (if w.testnet then 1 + hardened else hardened), acct + hardened]
      = acctLevels w purpose acct := by
    unfold acctLevels
    rw [coinLevel_eq, hardened_eq]
  unfold bipAccount at h
  simp only [hp, derivePath_singleton, Option.bind_eq_some_iff, Option.map_eq_some_iff,
    Prod.mk.injEq] at h
  obtain ⟨acctNd, h1, _, h2, ext, h3, children, h4, _, h5, rfl, rfl⟩ := h
  obtain ⟨hlen, hch⟩ := generateChildren_spec h4
  refine ⟨acctNd, children, h1, h2, h5, hlen, fun i hi => ?_⟩
  obtain ⟨c, hc, hck⟩ := hch i hi
  refine ⟨c, hc, ?_⟩
  unfold rowLevels
  rw [derivePath_append, h1, Option.bind_some, derivePath_cons, h3, Option.bind_some,
    derivePath_singleton, hck]

/-- the account path starts with a hardened level, which a public master cannot derive -/
theorem isPrv_of_bipAccount {P : Prims Pt} {w : Wallet} {purpose : Nat}
    {addr : Node → Option (List Char)} {acct a b : Nat} {r : Json × List Json}
    (h : bipAccount P w purpose addr acct a b = some r) : w.master.isPrv = true := by
  obtain ⟨_, _, h1, _⟩ := bipAccount_eq_some h
  refine Bool.of_not_eq_false fun hp => ?_
  exact absurd (lt_of_derivePath_of_pub hp h1 _ List.mem_cons_self) (Nat.not_lt.mpr (Nat.le_add_left _ _))

/-- on a watch-only wallet `bip44` / `bip49` / `bip84` raise at the first (hardened) step -/
theorem bipAccount_of_watchOnly (P : Prims Pt) {w : Wallet} (hpub : w.master.isPrv = false)
    (purpose : Nat) (addr : Node → Option (List Char)) (acct a b : Nat) :
    bipAccount P w purpose addr acct a b = none :=
  Option.eq_none_iff_forall_ne_some.mpr fun _ h => by
    rw [isPrv_of_bipAccount h] at hpub
    cases hpub

theorem generate_of_watchOnly (P : Prims Pt) {w : Wallet} (hpub : w.master.isPrv = false)
    (acct a b : Nat) : generate P w acct a b = none := by
  unfold generate
  rw [bipAccount_of_watchOnly P hpub]
  rfl

theorem bipAccount_rows {P : Prims Pt} {w : Wallet} {purpose : Nat}
    {addr : Node → Option (List Char)} {acct a b : Nat} {keys : Json} {rows : List Json}
    (h : bipAccount P w purpose addr acct a b = some (keys, rows)) :
    rows.length = b - a ∧ ∀ j (hj : j < rows.length), ∃ nd,
      derivePath P w.master (rowLevels w purpose acct (a + j)) = some nd ∧
      nd.path = w.master.path ++ rowLevels w purpose acct (a + j) ∧
      groupRow P w addr nd = some rows[j] := by
  obtain ⟨_, children, _, _, h5, hlen, hch⟩ := bipAccount_eq_some h
  have hl : rows.length = b - a := (length_of_mapM_eq_some h5).trans hlen
  refine ⟨hl, fun j hj => ?_⟩
  obtain ⟨c, hc, hd⟩ := hch j (hl ▸ hj)
  obtain ⟨row, hrow, hg⟩ := getElem?_of_mapM_eq_some h5 hc
  exact ⟨c, hd, (derivePath_fields hd).2, by rw [hg, ← hrow, List.getElem?_eq_getElem hj]⟩

/-- What an account block contains, as an `Acct`.  The master holds a private key
(`isPrv_of_bipAccount`), so does every node below, and so every row has its WIF.  Paths are
printed from the root object down, hence `w.master.path ++ …`. -/
theorem bipAccount_spec {P : Prims Pt} {w : Wallet} {purpose : Nat}
    {addr : Node → Option (List Char)} {acct a b : Nat} {r : Json × List Json}
    (h : bipAccount P w purpose addr acct a b = some r) :
    ∃ acctNd pub prv, ∃ rs : List Row,
      derivePath P w.master (acctLevels w purpose acct) = some acctNd ∧
      nodeExtendedPublicKey P w acctNd = some pub ∧
      nodeExtendedPrivateKey P w acctNd = some prv ∧
      r = (Acct.mk (Path.format ⟨w.master.path ++ acctLevels w purpose acct, true⟩) pub (some prv)
            rs).toPair ∧
      rs.length = b - a ∧
      ∀ i, i < b - a → ∃ nd k ad,
        derivePath P w.master (rowLevels w purpose acct (a + i)) = some nd ∧
        prvKey P nd = some k ∧ pubKey P nd = some (P.curve.mulGen k) ∧ addr nd = some ad ∧
        rs[i]? = some ⟨Path.format ⟨w.master.path ++ rowLevels w purpose acct (a + i), true⟩, ad,
          toHex (P.curve.sec true (P.curve.mulGen k)), some (Keys.wif P k true w.testnet)⟩ := by
  have hprv := isPrv_of_bipAccount h
  obtain ⟨keys, rows⟩ := r
  obtain ⟨acctNd, children, h1, h2, h5, hlen, hch⟩ := bipAccount_eq_some h
  rw [nodeExtendedKeys_of_prv hprv] at h2
  obtain ⟨prv, hx, h2⟩ := Option.bind_eq_some_iff.mp h2
  obtain ⟨pub, hpub, rfl⟩ := Option.map_eq_some_iff.mp h2
  rw [group_eq_rows] at h5
  obtain ⟨rs, h6, rfl⟩ := Option.map_eq_some_iff.mp h5
  refine ⟨acctNd, pub, prv, rs, h1, hpub, hx, ?_, (length_of_mapM_eq_some h6).trans hlen,
    fun i hi => ?_⟩
  · rw [← hprv, ← nodeRepr_of_derive h1]
    rfl
  · obtain ⟨c, hc, hd⟩ := hch i hi
    have hcp : c.isPrv = true := (derivePath_fields hd).1.trans hprv
    obtain ⟨row, hrow, hro⟩ := getElem?_of_mapM_eq_some h6 hc
    rw [rowOf_of_prv addr hprv hcp, nodeRepr_of_derive hd, hprv] at hro
    obtain ⟨ad, had, hro⟩ := Option.bind_eq_some_iff.mp hro
    obtain ⟨k, hk, rfl⟩ := Option.map_eq_some_iff.mp hro
    exact ⟨c, k, ad, hd, hk, pubKey_of_prvKey hcp hk, had, hrow⟩

/-! ### Addresses as functions of the public key -/

/-- P2PKH address of a public key (`purpose 44`) -/
def keyAddr44 (P : Prims Pt) (t : Bool) (K : Pt) : Option (List Char) :=
  some (p2pkhOfH160 P (h160 P K true) t)

/-- P2SH-P2WPKH address of a public key (`purpose 49`) -/
def keyAddr49 (P : Prims Pt) (t : Bool) (K : Pt) : Option (List Char) :=
  (Script.rawSerialize (Script.p2wpkhScript (h160 P K true))).map fun redeem =>
    p2shOfH160 P (hash160 P redeem) t

/-- P2WPKH address of a public key (`purpose 84`) -/
def keyAddr84 (P : Prims Pt) (t : Bool) (K : Pt) : Option (List Char) :=
  segwitOf (h160 P K true) t

theorem p2pkhAddress_eq (P : Prims Pt) (t : Bool) (nd : Node) :
    p2pkhAddress P t nd = (pubKey P nd).bind (keyAddr44 P t) := by
  unfold p2pkhAddress keyAddr44 pubP2pkh
  cases pubKey P nd <;> rfl

theorem p2shP2wpkhAddress_eq (P : Prims Pt) (t : Bool) (nd : Node) :
    p2shP2wpkhAddress P t nd = (pubKey P nd).bind (keyAddr49 P t) := rfl

theorem p2wpkhAddress_eq (P : Prims Pt) (t : Bool) (nd : Node) :
    p2wpkhAddress P t nd = (pubKey P nd).bind (keyAddr84 P t) := rfl

/-! ### The specification of one account block -/

/-- BIP flavour index of a purpose: 44 ↦ 0, 49 ↦ 1, 84 ↦ 2 (anything else ↦ 0, like `Bip32Path.bip`) -/
def bipIdx (purpose : Nat) : Nat :=
  if purpose = 44 then 0 else if purpose = 49 then 1 else if purpose = 84 then 2 else 0

theorem bipOf_acctLevels (w : Wallet) (purpose acct : Nat) (b : Bool) :
    Path.bipOf ⟨acctLevels w purpose acct, b⟩ = bipIdx purpose := by
  unfold Path.bipOf acctLevels bipIdx
  simp only [List.head?_cons, Nat.add_right_cancel_iff]

/-- What an account block of the report must contain, for a wallet with a private root master:
* the account node at `m/purpose'/coin'/account'`, its printed path, and its extended public and
  private keys as the wallet prints them (`node_extended_public_key` / `…_private_key`);
* exactly one row per index of `range(a, b)`, in order; row `i` belongs to the private node at
  `m/purpose'/coin'/account'/0/(a+i)` with scalar `k` and is
  `[printed path, address of k·G, hex of the compressed SEC of k·G, compressed WIF of k on the
  wallet's network]`. -/
def AcctOk (P : Prims Pt) (w : Wallet) (purpose : Nat) (keyAddr : Pt → Option (List Char))
    (acct a b : Nat) (v : Acct) : Prop :=
  (∃ acctNd xprv, derivePath P w.master (acctLevels w purpose acct) = some acctNd ∧
      v.path = Path.format ⟨acctLevels w purpose acct, true⟩ ∧
      nodeExtendedPublicKey P w acctNd = some v.pub ∧
      nodeExtendedPrivateKey P w acctNd = some xprv ∧ v.prv = some xprv) ∧
  v.rows.length = b - a ∧
  ∀ i, i < b - a → ∃ nd k ad,
    derivePath P w.master (rowLevels w purpose acct (a + i)) = some nd ∧
    prvKey P nd = some k ∧ keyAddr (P.curve.mulGen k) = some ad ∧
    v.rows[i]? = some ⟨Path.format ⟨rowLevels w purpose acct (a + i), true⟩, ad,
      toHex (P.curve.sec true (P.curve.mulGen k)), some (Keys.wif P k true w.testnet)⟩

theorem generate_eq_some {P : Prims Pt} {w : Wallet} {acct a b : Nat} {j : Json} :
    generate P w acct a b = some j ↔
      ∃ r44 r49 r84 b85,
        bipAccount P w 44 (p2pkhAddress P w.testnet) acct a b = some r44 ∧
        bipAccount P w 49 (p2shP2wpkhAddress P w.testnet) acct a b = some r49 ∧
        bipAccount P w 84 (p2wpkhAddress P w.testnet) acct a b = some r84 ∧
        bip85Data P w = some b85 ∧
        j = .obj [("MASTER".toList, masterData w), ("BIP85".toList, b85),
                  ("BIP44".toList, acctJson r44), ("BIP49".toList, acctJson r49),
                  ("BIP84".toList, acctJson r84)] := by
  simp only [generate, Option.bind_eq_some_iff, Option.map_eq_some_iff, exists_and_left,
    @eq_comm _ j]

theorem parse_wasabi_path :
    Path.parse "m/84'/0'/0'".toList = some ⟨[84 + 2 ^ 31, 2 ^ 31, 2 ^ 31], true⟩ := by
  rw [String.toList_ofList]
  decide +kernel

theorem byPath_wasabi (P : Prims Pt) (w : Wallet) :
    byPath P w "m/84'/0'/0'".toList = derivePath P w.master [84 + 2 ^ 31, 2 ^ 31, 2 ^ 31] := by
  unfold byPath
  rw [parse_wasabi_path]
  rfl

end BtcHd.Wallet
